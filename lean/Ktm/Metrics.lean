import Ktm.Sc
/-! C18: `MetricHistory` — per-step observations (`update`, read back by step and in step order), executions averaged, best
    value ignoring NaN. Best value and best step are taken over the per-step means, so a further value at an old step can
    make the best worse. -/
namespace Metrics

inductive FV | nan | val (s : Sc)
  deriving DecidableEq, Repr

/-- IEEE addition as numpy's `mean` performs it: NaN absorbs, `inf + (-inf)` is NaN -/
def FV.add : FV → FV → FV
  | .val a, .val b => match Sc.add a b with | some c => .val c | none => .nan
  | _, _ => .nan

def sum : List FV → FV
  | [] => .val (.fin 0)
  | x :: xs => FV.add x (sum xs)

def mean (l : List FV) : FV :=
  match sum l with
  | .val s => .val (s.divNat l.length)
  | .nan => .nan

structure Obs where
  step : Int
  vals : List FV

/-- `MetricHistory.update`: append to the observation of that step, or create it (insertion order kept) -/
def update : List Obs → Int → FV → List Obs
  | [], s, v => [⟨s, [v]⟩]
  | o :: os, s, v => if o.step = s then ⟨s, o.vals ++ [v]⟩ :: os else o :: update os s v

/-- the executions recorded at step `s` (specification only: the code has no such reader) -/
def valsAt (h : List Obs) (s : Int) : List FV := match h.find? (·.step = s) with | some o => o.vals | none => []

theorem valsAt_cons (o : Obs) (os : List Obs) (s : Int) :
    valsAt (o :: os) s = if s = o.step then o.vals else valsAt os s := by
  simp only [valsAt, List.find?_cons, eq_comm (a := s)]
  by_cases h : o.step = s
  · simp only [h, decide_true, if_true]
  · simp only [h, decide_false, if_false]

theorem update_records (h : List Obs) (s : Int) (v : FV) (s' : Int) :
    valsAt (update h s v) s' = if s' = s then valsAt h s ++ [v] else valsAt h s' := by
  fun_induction update h s v with
  | case1 s v => exact valsAt_cons ..
  | case2 o os v => -- the head is the observation of the reported step
    rw [valsAt_cons, valsAt_cons, valsAt_cons, if_pos rfl]
    split <;> rfl
  | case3 o os s v ho ih =>
    rw [valsAt_cons, valsAt_cons, valsAt_cons, ih, if_neg (Ne.symm ho)]
    by_cases hos : s' = o.step
    · rw [if_pos hos, if_neg fun e => ho (hos.symm.trans e), if_pos hos]
    · rw [if_neg hos, if_neg hos]

theorem update_steps (h : List Obs) (s : Int) (v : FV) :
    (update h s v).map (·.step) = if s ∈ h.map (·.step) then h.map (·.step) else h.map (·.step) ++ [s] := by
  fun_induction update h s v with
  | case1 s v => rfl
  | case2 o os v => exact (if_pos List.mem_cons_self).symm
  | case3 o os s v ho ih =>
    have hne : ¬ s = o.step := fun e => ho e.symm
    simp only [List.map_cons, ih, List.mem_cons, hne, false_or]
    split <;> rfl

def leDir (minimize : Bool) (a b : Sc) : Bool := if minimize then Sc.le a b else Sc.le b a

/-- `np.nanmin` / `np.nanmax` over the per-step means: NaN entries are ignored -/
def nanBest (minimize : Bool) : List FV → Option Sc
  | [] => none
  | .nan :: xs => nanBest minimize xs
  | .val a :: xs =>
    match nanBest minimize xs with
    | none => some a
    | some b => if leDir minimize a b then some a else some b

/-- `get_best_value`: None when nothing was reported, NaN when every mean is NaN -/
def bestValue (minimize : Bool) (h : List Obs) : Option FV :=
  if h = [] then none else
  match nanBest minimize (h.map (fun o => mean o.vals)) with
  | some b => some (.val b)
  | none => some .nan

/-- `get_best_step`: first observation (insertion order) whose mean equals the best value -/
def bestStep (minimize : Bool) (h : List Obs) : Option Int :=
  match nanBest minimize (h.map (fun o => mean o.vals)) with
  | some b => (h.find? (fun o => mean o.vals == .val b)).map (·.step)
  | none => none

theorem leDir_total (m : Bool) (a b : Sc) : leDir m a b = true ∨ leDir m b a = true := by
  cases m
  · exact Sc.le_total b a
  · exact Sc.le_total a b

theorem leDir_trans (m : Bool) (a b c : Sc) (h1 : leDir m a b = true) (h2 : leDir m b c = true) :
    leDir m a c = true := by
  cases m
  · exact Sc.le_trans _ _ _ h2 h1
  · exact Sc.le_trans _ _ _ h1 h2

theorem leDir_refl (m : Bool) (a : Sc) : leDir m a a = true := by
  cases m <;> exact Sc.le_refl a

theorem nanBest_spec (m : Bool) (l : List FV) :
    match nanBest m l with
    | some b => FV.val b ∈ l ∧ ∀ a, FV.val a ∈ l → leDir m b a = true
    | none => ∀ a, FV.val a ∉ l := by
  have hcons : ∀ {a : Sc} {xs : List FV} (c : Sc), leDir m c a = true → (∀ a', FV.val a' ∈ xs → leDir m c a' = true) →
      ∀ a', FV.val a' ∈ FV.val a :: xs → leDir m c a' = true := by
    intro a xs c hca hxs a' ha'
    rcases List.mem_cons.mp ha' with e | ha'
    · cases e; exact hca
    · exact hxs a' ha'
  fun_induction nanBest m l with
  | case1 => exact fun a ha => nomatch ha
  | case2 xs ih => -- a NaN is skipped
    have hmem : ∀ a, FV.val a ∈ FV.nan :: xs ↔ FV.val a ∈ xs := by simp
    simpa only [hmem] using ih
  | case3 a xs hb ih => -- no number behind `a`
    rw [hb] at ih
    exact ⟨List.mem_cons_self, hcons a (leDir_refl m a) fun a' ha' => absurd ha' (ih a')⟩
  | case4 a xs b hb hab ih => -- `a` is at least as good as `b`, the best behind it
    rw [hb] at ih
    exact ⟨List.mem_cons_self, hcons a (leDir_refl m a) fun a' ha' => leDir_trans m _ _ _ hab (ih.2 a' ha')⟩
  | case5 a xs b hb hab ih => -- `b` is better than `a`
    rw [hb] at ih
    exact ⟨List.mem_cons_of_mem _ ih.1, hcons b ((leDir_total m a b).resolve_left hab) ih.2⟩
#print axioms Metrics.nanBest_spec

theorem bestStep_attains (m : Bool) (h : List Obs) (s : Int) (hs : bestStep m h = some s) :
    ∃ o ∈ h, o.step = s ∧ bestValue m h = some (mean o.vals) := by
  unfold bestStep at hs
  cases hb : nanBest m (h.map (fun o => mean o.vals)) with
  | none => rw [hb] at hs; cases hs
  | some b =>
    simp only [hb, Option.map_eq_some_iff] at hs
    obtain ⟨o, ho, hst⟩ := hs
    have hmem := List.mem_of_find?_eq_some ho
    have hp := List.find?_some ho
    have hne : h ≠ [] := List.ne_nil_of_mem hmem
    refine ⟨o, hmem, hst, ?_⟩
    simp only [bestValue, hne, if_false, hb]
    rw [eq_of_beq hp]
#print axioms Metrics.bestStep_attains

/-- one NaN among the executions reported at a step makes the sum, hence the mean, of that step NaN (numpy's `mean`, not `nanmean`) -/
theorem sum_nan_of_mem (l : List FV) (h : FV.nan ∈ l) : sum l = .nan := by
  induction l with
  | nil => cases h
  | cons x xs ih =>
    simp only [sum]
    rcases List.mem_cons.mp h with hx | hx
    · rw [← hx]; rfl
    · rw [ih hx]; cases x <;> rfl

theorem mean_nan_of_mem (l : List FV) (h : FV.nan ∈ l) : mean l = .nan := by
  rw [mean, sum_nan_of_mem l h]

/-- `get_history`: the observations sorted by step -/
def history (h : List Obs) : List Obs := h.mergeSort (fun a b => decide (a.step ≤ b.step))

theorem history_sorted_perm (h : List Obs) :
    (history h).Pairwise (fun a b => a.step ≤ b.step) ∧ (history h).Perm h := by
  refine ⟨?_, List.mergeSort_perm _ _⟩
  have := List.pairwise_mergeSort (le := fun (a b : Obs) => decide (a.step ≤ b.step))
    (fun a b c h1 h2 => decide_eq_true (Int.le_trans (of_decide_eq_true h1) (of_decide_eq_true h2)))
    (fun a b => by simpa using Int.le_total a.step b.step) h
  exact this.imp of_decide_eq_true

end Metrics
#print axioms Metrics.update_records
