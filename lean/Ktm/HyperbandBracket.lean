import Ktm.Hyperband
import Ktm.Rank
import Ktm.ListLemmas
/-! Hyperband, one bracket at a time (C10, C11). -/
namespace HB
open Core

theorem bestOf_mem (m : Bool) (l : List (Nat × Int)) (x : Nat × Int) (h : bestOf m l = some x) : x ∈ l := by
  fun_induction bestOf m l generalizing x with
  | case1 => cases h
  | case2 a as hb => cases h; exact List.mem_cons_self
  | case3 a as y hb hya ih => cases h; exact List.mem_cons_of_mem _ (ih _ hb)
  | case4 a as y hb hya ih => cases h; exact List.mem_cons_self

theorem bestOf_ne_none (m : Bool) (l : List (Nat × Int)) (h : l ≠ []) : bestOf m l ≠ none := by
  fun_cases bestOf m l with
  | case1 => exact absurd rfl h
  | case2 | case3 | case4 => exact Option.some_ne_none _

theorem better_irrefl (m : Bool) (a : Int) : better m a a = false := by
  cases m <;> exact decide_eq_false (Int.lt_irrefl a)

theorem better_asymm (m : Bool) (a b : Int) (h : better m a b = true) : better m b a = false := by
  cases m <;> exact decide_eq_false (Int.lt_asymm (of_decide_eq_true h))

theorem not_better_trans (m : Bool) (a b c : Int) (h1 : better m a b = false) (h2 : better m b c = false) :
    better m a c = false := by
  cases m
  · exact decide_eq_false fun h => of_decide_eq_false h2 (Int.lt_of_lt_of_le h (Int.not_lt.mp (of_decide_eq_false h1)))
  · exact decide_eq_false fun h => of_decide_eq_false h1 (Int.lt_of_lt_of_le h (Int.not_lt.mp (of_decide_eq_false h2)))

theorem bestOf_best (m : Bool) (l : List (Nat × Int)) (x : Nat × Int) (h : bestOf m l = some x) :
    ∀ c ∈ l, better m c.2 x.2 = false := by
  fun_induction bestOf m l generalizing x with
  | case1 => exact fun _ hc => nomatch hc
  | case2 a as hb =>
    cases h
    exact List.forall_mem_cons.mpr ⟨better_irrefl m _, fun c hc => absurd hb (bestOf_ne_none m as (List.ne_nil_of_mem hc))⟩
  | case3 a as y hb hya ih =>
    -- the tail's best `y` strictly beats `a`, so `a` does not beat `y`
    cases h
    exact List.forall_mem_cons.mpr ⟨better_asymm m _ _ hya, ih y hb⟩
  | case4 a as y hb hya ih =>
    -- `a` stays: nobody in the tail beats `y`, and `y` does not beat `a`
    cases h
    exact List.forall_mem_cons.mpr
      ⟨better_irrefl m _, fun c hc => not_better_trans m _ _ _ (ih y hb c hc) (Bool.eq_false_iff.mpr hya)⟩

#print axioms HB.bestOf_best

/-- ids of the previous round that are already selected by the current round -/
def pasts (cur : List Entry) : List Nat := cur.filterMap (·.past)

theorem mem_pasts (cur : List Entry) (i : Nat) : i ∈ pasts cur ↔ ∃ c ∈ cur, c.past = some i :=
  List.mem_filterMap

theorem any_past_iff (cur : List Entry) (i : Nat) : cur.any (fun c => c.past == some i) = true ↔ i ∈ pasts cur := by
  simp only [pasts, List.any_eq_true, List.mem_filterMap, beq_iff_eq]

theorem candOf_some (o : O) (cur : List Entry) (e : Entry) (x : Nat × Int) (hx : candOf o cur e = some x) :
    x.1 = e.id ∧ (∀ c ∈ cur, c.past ≠ some e.id) ∧
    ∃ t, o.trials[e.id]? = some t ∧ t.status = .completed ∧ t.score = some x.2 := by
  unfold candOf at hx
  split at hx
  next => cases hx
  next hsel =>
    split at hx
    next t ht =>
      split at hx
      next hst =>
        obtain ⟨s, hsc, rfl⟩ := Option.map_eq_some_iff.mp hx
        exact ⟨rfl, fun c hc hp => hsel ((any_past_iff cur e.id).mpr ((mem_pasts cur e.id).mpr ⟨c, hc, hp⟩)), t, ht, hst, hsc⟩
      next => cases hx
    next => cases hx

def AllReady (o : O) (prev : List Entry) : Prop :=
  ∀ e ∈ prev, ∃ t s, o.trials[e.id]? = some t ∧ t.status = .completed ∧ t.score = some s

theorem candOf_selected (o : O) {cur : List Entry} {e : Entry} (h : e.id ∈ pasts cur) : candOf o cur e = none :=
  if_pos ((any_past_iff cur e.id).mpr h)

theorem candOf_ready (o : O) (cur : List Entry) (e : Entry) (t : Trial HV) (s : Int) (hsel : e.id ∉ pasts cur)
    (ht : o.trials[e.id]? = some t) (hst : t.status = .completed) (hsc : t.score = some s) :
    candOf o cur e = some (e.id, s) := by
  unfold candOf
  rw [if_neg (mt (any_past_iff cur e.id).mp hsel)]
  simp only [ht, if_pos hst, hsc, Option.map_some]

theorem mem_candidates (o : O) (prev cur : List Entry) (x : Nat × Int) (h : x ∈ candidates o prev cur) :
    (∃ e ∈ prev, e.id = x.1) ∧ (∀ c ∈ cur, c.past ≠ some x.1) ∧
    ∃ t, o.trials[x.1]? = some t ∧ t.status = .completed ∧ t.score = some x.2 := by
  simp only [candidates, List.mem_filterMap] at h
  obtain ⟨e, he, hx⟩ := h
  obtain ⟨h1, h2, h3⟩ := candOf_some o cur e x hx
  rw [h1]; exact ⟨⟨e, he, rfl⟩, h2, h3⟩

theorem candidates_ids (o : O) (prev cur : List Entry) :
    ((candidates o prev cur).map (·.1)).Sublist ((prev.map (·.id)).filter (fun i => !((pasts cur).contains i))) ∧
    (AllReady o prev →
      (candidates o prev cur).map (·.1) = (prev.map (·.id)).filter (fun i => !((pasts cur).contains i))) := by
  induction prev with
  | nil => exact ⟨List.Sublist.slnil, fun _ => rfl⟩
  | cons e es ih =>
    simp only [candidates, List.filterMap_cons, List.map_cons, List.filter_cons, List.contains_eq_mem] at ih ⊢
    by_cases hsel : e.id ∈ pasts cur
    · -- already selected: not a candidate, and filtered out
      simp only [candOf_selected o hsel, hsel, decide_true, Bool.not_true, Bool.false_eq_true, if_false]
      exact ⟨ih.1, fun h => ih.2 fun x hx => h x (List.mem_cons_of_mem _ hx)⟩
    · simp only [hsel, decide_false, Bool.not_false, if_true]
      cases hc : candOf o cur e with
      | none =>
        refine ⟨List.Sublist.cons _ ih.1, fun h => ?_⟩
        obtain ⟨t, s, ht, hst, hsc⟩ := h e List.mem_cons_self
        rw [candOf_ready o cur e t s hsel ht hst hsc] at hc
        cases hc
      | some x =>
        simp only [List.map_cons, (candOf_some o cur e x hc).1]
        exact ⟨List.Sublist.cons_cons _ ih.1, fun h => by rw [ih.2 fun x hx => h x (List.mem_cons_of_mem _ hx)]⟩

theorem candidates_ids_sublist (o : O) (prev cur : List Entry) :
    ((candidates o prev cur).map (·.1)).Sublist
      ((prev.map (·.id)).filter (fun i => !((pasts cur).contains i))) :=
  (candidates_ids o prev cur).1

theorem candidates_count (o : O) (prev cur : List Entry)
    (hprev : (prev.map (·.id)).Nodup) (hp : (pasts cur).Nodup) (hsub : ∀ i ∈ pasts cur, i ∈ prev.map (·.id)) :
    (candidates o prev cur).length + (pasts cur).length ≤ prev.length := by
  have h1 := (candidates_ids_sublist o prev cur).length_le
  have h2 := Rank.length_filter_not_contains_add_length (prev.map (·.id)) (pasts cur) hp hprev hsub
  rw [List.length_map] at h1 h2
  exact h2 ▸ Nat.add_le_add_right h1 _

theorem ready_candidates (o : O) (cfg : Cfg) (num r : Nat) (prev cur : List Entry)
    (hready : AllReady o prev) (hfull : prev.length = cfg.size num r) (hroom : (pasts cur).length < cfg.size num (r + 1))
    (hmono : cfg.size num (r + 1) ≤ cfg.size num r)
    (hprev : (prev.map (·.id)).Nodup) (hp : (pasts cur).Nodup) (hsub : ∀ i ∈ pasts cur, i ∈ prev.map (·.id)) :
    cfg.size num r - cfg.size num (r + 1) < (candidates o prev cur).length := by
  -- every trial of the round that is not selected yet is a candidate
  have h1 := congrArg List.length ((candidates_ids o prev cur).2 hready)
  have h2 := Rank.length_filter_not_contains_add_length (prev.map (·.id)) (pasts cur) hp hprev hsub
  rw [List.length_map] at h1 h2
  rw [← h1, hfull] at h2
  exact Nat.sub_lt_left_of_lt_add hmono (by rw [← h2, Nat.add_comm]; exact Nat.add_lt_add_right hroom _)

#print axioms HB.candidates_count

/-- a trial of the previous round beats the promoted parent (in some later state `o'`) -/
def beats (o' : O) (minimize : Bool) (ps : Int) (u : Nat) : Bool :=
  match o'.trials[u]? with
  | some t => t.status == .completed && (match t.score with | some su => better minimize su ps | none => false)
  | none => false

/-- C10 promotion soundness, at the moment of promotion and for every future:
    let `prev`/`cur` be rounds `j`/`j+1` when `pid` is chosen, `R` the ids of round `j` in any later state
    (it only grows and never exceeds its scheduled size), and `o'` any later oracle state in which the
    trials that were COMPLETED at promotion time still have the same status and score. Then fewer
    trials of round `j` beat the promoted parent than round `j+1` has places. -/
theorem promote_rank (o o' : O) (cfg : Cfg) (bnum j pid : Nat) (sc : Int) (prev cur : List Entry)
    (hprev_nodup : (prev.map (·.id)).Nodup)
    (hsz : cfg.size bnum j - cfg.size bnum (j + 1) < (candidates o prev cur).length)
    (hbest : bestOf cfg.minimize (candidates o prev cur) = some (pid, sc))
    (R : List Nat) (hRn : R.Nodup) (hRlen : R.length ≤ cfg.size bnum j)
    (hgrow : ∀ i ∈ prev.map (·.id), i ∈ R)
    (hfrozen : ∀ (i : Nat) (t : Trial HV), o.trials[i]? = some t → t.status = .completed →
        ∃ t', o'.trials[i]? = some t' ∧ t'.status = .completed ∧ t'.score = t.score) :
    R.countP (beats o' cfg.minimize sc) < cfg.size bnum (j + 1) := by
  -- the counting argument of `Rank.promotion_bound` with `C` the ids of the candidates
  refine Rank.promotion_bound R ((candidates o prev cur).map (·.1)) _ _ _ hRlen hRn
    ((hprev_nodup.sublist List.filter_sublist).sublist (candidates_ids_sublist o prev cur)) ?_
    (by rw [List.length_map]; exact hsz) ?_
  · intro c hc
    obtain ⟨x, hx, rfl⟩ := List.mem_map.mp hc
    obtain ⟨⟨e, he, hid⟩, _, _⟩ := mem_candidates o prev cur x hx
    exact hgrow _ (List.mem_map.mpr ⟨e, he, hid⟩)
  · -- a candidate still has its score in `o'`, and the winner's is no worse
    intro c hc
    obtain ⟨x, hx, rfl⟩ := List.mem_map.mp hc
    obtain ⟨_, _, t, ht, hst, hscore⟩ := mem_candidates o prev cur x hx
    obtain ⟨t', ht', hst', hsc'⟩ := hfrozen x.1 t ht hst
    have hb : better cfg.minimize x.2 sc = false := bestOf_best cfg.minimize _ _ hbest x hx
    simp only [beats, ht', hst', hsc', hscore, hb, beq_self_eq_true, Bool.and_false]

#print axioms HB.promote_rank

theorem tryPromote_spec (o : O) (cfg : Cfg) (b : Bracket) (rs : List (List Entry)) :
    ∀ (k r pid : Nat), tryPromote o cfg b k rs = some (r, pid) →
    ∃ j prev cur, r = k + j + 1 ∧ rs[j]? = some prev ∧ rs[j + 1]? = some cur ∧
      cfg.size b.num (k + j) - cfg.size b.num (k + j + 1) < (candidates o prev cur).length ∧
      ∃ sc, bestOf cfg.minimize (candidates o prev cur) = some (pid, sc) := by
  intro k r pid h
  -- the cases of `tryPromote`: 1, 2 fewer than two rounds; 3 a winner; 4 candidates enough but none best; 5 too few candidates
  fun_induction tryPromote o cfg b k rs with
  | case1 | case2 => cases h
  | case3 k prev cur rest cands hlt pid' sc hb => cases h; exact ⟨0, prev, cur, rfl, rfl, rfl, hlt, sc, hb⟩
  | case4 k prev cur rest cands _ _ ih | case5 k prev cur rest cands _ ih =>
    obtain ⟨j, p, c, hr, hp, hc, hsz, hb⟩ := ih h
    rw [Nat.add_right_comm k 1 j] at hr hsz
    exact ⟨j + 1, p, c, hr, hp, hc, hsz, hb⟩

theorem tryPromote_none (o : O) (cfg : Cfg) (b : Bracket) (k : Nat) (rs : List (List Entry))
    (h : tryPromote o cfg b k rs = none) (j : Nat) (prev cur : List Entry) (hp : rs[j]? = some prev) (hc : rs[j + 1]? = some cur) :
    ¬ cfg.size b.num (k + j) - cfg.size b.num (k + j + 1) < (candidates o prev cur).length := by
  fun_induction tryPromote o cfg b k rs generalizing j with
  | case1 => cases hp
  | case2 => cases hc
  | case3 => cases h
  | case4 k prev' cur' rest cands hlt hb ih =>
    -- more candidates than some number: there is a best one
    exact absurd hb (bestOf_ne_none _ _ (List.ne_nil_of_length_pos (Nat.zero_lt_of_lt hlt)))
  | case5 k prev' cur' rest cands hge ih =>
    cases j with
    | zero =>
      cases hp
      cases hc
      exact hge
    | succ j => rw [← show k + 1 + j = k + (j + 1) from Nat.add_right_comm k 1 j]; exact ih h j hp hc

theorem scan_random_spec (o : O) (cfg : Cfg) (brs : List Bracket) :
    ∀ (i bi : Nat), scan o cfg i brs = .random bi →
    ∃ j b r0 rest, bi = i + j ∧ brs[j]? = some b ∧ b.rounds = r0 :: rest ∧ r0.length < cfg.size b.num 0 := by
  intro i bi h
  -- the cases of `scan`: 1 no bracket left; 2 a bracket without rounds; 3 its first round has room; 4 a promotion; 5 neither
  fun_induction scan o cfg i brs with
  | case1 | case4 => cases h
  | case2 i b bs _ ih | case5 i b bs _ _ _ _ _ ih =>
    obtain ⟨j, b', r0, rest, rfl, h'⟩ := ih h
    exact ⟨j + 1, b', r0, rest, Nat.add_right_comm i 1 j, h'⟩
  | case3 i b bs r0 rest hr hlt => cases h; exact ⟨0, b, r0, rest, rfl, rfl, hr, hlt⟩

theorem scan_promote_spec (o : O) (cfg : Cfg) (brs : List Bracket) :
    ∀ (i bi r pid : Nat), scan o cfg i brs = .promote bi r pid →
    ∃ j b, bi = i + j ∧ brs[j]? = some b ∧ tryPromote o cfg b 0 b.rounds = some (r, pid) := by
  intro i bi r pid h
  fun_induction scan o cfg i brs with
  | case1 | case3 => cases h
  | case2 i b bs _ ih | case5 i b bs _ _ _ _ _ ih =>
    obtain ⟨j, b', rfl, h'⟩ := ih h
    exact ⟨j + 1, b', Nat.add_right_comm i 1 j, h'⟩
  | case4 i b bs r0 rest hr hge r' pid' htp => cases h; exact ⟨0, b, rfl, rfl, htp⟩

theorem scan_none (o : O) (cfg : Cfg) (i : Nat) (brs : List Bracket) (h : scan o cfg i brs = .none) :
    ∀ b ∈ brs, tryPromote o cfg b 0 b.rounds = none := by
  fun_induction scan o cfg i brs with
  | case1 => exact fun _ hb => nomatch hb
  | case2 i b bs hr ih => exact List.forall_mem_cons.mpr ⟨by rw [hr]; rfl, ih h⟩
  | case3 | case4 => cases h
  | case5 i b bs r0 rest hr hge htp ih => exact List.forall_mem_cons.mpr ⟨htp, ih h⟩

/-- C11 ("a search never ends early while work it was asked to do remains"), Hyperband: a promotion that is due is found.
    If round `r` of a bracket is full, every one of its trials is COMPLETED with a score, and round `r + 1` holds fewer parents
    than it has places, then `tryPromote` returns a promotion into round `r + 1`. -/
theorem due_promotion_found (o : O) (cfg : Cfg) (b : Bracket) (r : Nat) (prev cur : List Entry) (rest : List (List Entry))
    (hready : AllReady o prev)
    (hfull : prev.length = cfg.size b.num r)
    (hroom : (pasts cur).length < cfg.size b.num (r + 1))
    (hmono : cfg.size b.num (r + 1) ≤ cfg.size b.num r)
    (hprev : (prev.map (·.id)).Nodup) (hp : (pasts cur).Nodup) (hsub : ∀ i ∈ pasts cur, i ∈ prev.map (·.id)) :
    ∃ pid, tryPromote o cfg b r (prev :: cur :: rest) = some (r + 1, pid) := by
  have hmany := ready_candidates o cfg b.num r prev cur hready hfull hroom hmono hprev hp hsub
  cases hx : bestOf cfg.minimize (candidates o prev cur) with
  | none => exact absurd hx (bestOf_ne_none _ _ (List.ne_nil_of_length_pos (Nat.zero_lt_of_lt hmany)))
  | some x => exact ⟨x.1, by simp only [tryPromote, hmany, if_true, hx]⟩

/-- a bracket in which some promotion is due: round `j` full and ready, round `j + 1` with room -/
def Due (o : O) (cfg : Cfg) (b : Bracket) : Prop :=
  ∃ (pre : List (List Entry)) (prev cur : List Entry) (rest : List (List Entry)),
    b.rounds = pre ++ prev :: cur :: rest ∧ AllReady o prev ∧ prev.length = cfg.size b.num pre.length ∧
    (pasts cur).length < cfg.size b.num (pre.length + 1) ∧ cfg.size b.num (pre.length + 1) ≤ cfg.size b.num pre.length ∧
    (prev.map (·.id)).Nodup ∧ (pasts cur).Nodup ∧ (∀ i ∈ pasts cur, i ∈ prev.map (·.id))

theorem due_tryPromote (o : O) (cfg : Cfg) (b : Bracket) (h : Due o cfg b) : tryPromote o cfg b 0 b.rounds ≠ none := by
  obtain ⟨pre, prev, cur, rest, hr, hready, hfull, hroom, hmono, h1, h2, h3⟩ := h
  intro hnone
  -- the due pair of rounds is one with enough candidates
  have hmany := ready_candidates o cfg b.num pre.length prev cur hready hfull hroom hmono h1 h2 h3
  rw [hr] at hnone
  refine tryPromote_none o cfg b 0 _ hnone pre.length prev cur ?_ ?_ (by rwa [Nat.zero_add])
  · rw [List.getElem?_append_right (Nat.le_refl _), Nat.sub_self]; rfl
  · rw [List.getElem?_append_right (Nat.le_add_right _ 1), Nat.add_sub_cancel_left]; rfl

/-- no early stop while a promotion is due: the scan of the open brackets does not come back empty-handed when one of them
    has a due promotion — `populate_space` then fills a first round or promotes; it neither opens a new bracket nor answers
    IDLE / STOPPED for lack of work -/
theorem scan_finds_due (o : O) (cfg : Cfg) (bs : List Bracket) (i : Nat) (h : ∃ b ∈ bs, Due o cfg b) : scan o cfg i bs ≠ .none :=
  fun hnone => let ⟨b, hb, hd⟩ := h; due_tryPromote o cfg b hd (scan_none o cfg i bs hnone b hb)

def dueOps : List Op := [.create 0 1, .create 1 2, .create 2 3, .create 3 4,
    .update 0 (some 5), .endT 0 .completed, .update 1 (some 3), .endT 1 .completed,
    .update 2 (some 4), .endT 2 .completed, .update 3 (some 6), .endT 3 .completed]

def dueState : O := run alg (init cfg42) dueOps

theorem dueState_due : ∃ b ∈ dueState.alg.brackets, Due dueState cfg42 b := by
  have hb : dueState.alg.brackets = [⟨2, [[⟨0, none⟩, ⟨1, none⟩, ⟨2, none⟩, ⟨3, none⟩], [], []]⟩] := rfl
  rw [hb]
  refine ⟨_, List.mem_singleton.mpr rfl, ?_⟩
  refine ⟨[], [⟨0, none⟩, ⟨1, none⟩, ⟨2, none⟩, ⟨3, none⟩], [], [[]], rfl, ?_, by decide, by decide, by decide, by decide, by decide, by decide⟩
  intro e he
  simp only [List.mem_cons, List.not_mem_nil, or_false] at he
  rcases he with rfl | rfl | rfl | rfl
  · exact ⟨_, 5, rfl, rfl, rfl⟩
  · exact ⟨_, 3, rfl, rfl, rfl⟩
  · exact ⟨_, 4, rfl, rfl, rfl⟩
  · exact ⟨_, 6, rfl, rfl, rfl⟩

/-- non-vacuity of `scan_finds_due`: four workers fill round 0 of bracket 2 (max_epochs 4, factor 2) and all four trials complete:
    a promotion into round 1 is due -/
example : ∃ b ∈ dueState.alg.brackets, Due dueState cfg42 b := dueState_due

example : scan dueState cfg42 0 dueState.alg.brackets ≠ .none :=
  scan_finds_due dueState cfg42 _ 0 dueState_due

#print axioms HB.due_promotion_found
#print axioms HB.scan_finds_due

/-- a well-formed bracket of an oracle with `n` trials: rounds within their sizes, ids below `n`; from round 1 on every entry
    has a parent (`past`), taken from the round before, and no parent is taken twice -/
structure BInv (cfg : Cfg) (n : Nat) (b : Bracket) : Prop where
  len : b.rounds.length = b.num + 1
  size_ok : ∀ (r : Nat) (l : List Entry), b.rounds[r]? = some l → l.length ≤ cfg.size b.num r
  ids_lt : ∀ (r : Nat) (l : List Entry), b.rounds[r]? = some l → ∀ e ∈ l, e.id < n
  ids_nodup : ∀ (r : Nat) (l : List Entry), b.rounds[r]? = some l → (l.map (·.id)).Nodup
  past_nodup : ∀ (r : Nat) (l : List Entry), b.rounds[r]? = some l → (pasts l).Nodup
  past_sub : ∀ (r : Nat) (prev cur : List Entry), b.rounds[r]? = some prev → b.rounds[r + 1]? = some cur →
      ∀ i ∈ pasts cur, i ∈ prev.map (·.id)
  past_len : ∀ (r : Nat) (cur : List Entry), b.rounds[r + 1]? = some cur → (pasts cur).length = cur.length

theorem BInv.mono {cfg : Cfg} {n : Nat} {b : Bracket} (h : BInv cfg n b) : BInv cfg (n + 1) b :=
  { h with ids_lt := fun r l hl e he => Nat.lt_succ_of_lt (h.ids_lt r l hl e he) }

theorem BInv.parent_prev {cfg : Cfg} {n : Nat} {b : Bracket} (h : BInv cfg n b) {r : Nat} {l : List Entry} (hr : 1 ≤ r)
    (hl : b.rounds[r]? = some l) {i pid : Nat} (hmem : ⟨i, some pid⟩ ∈ l) :
    ∃ prev, b.rounds[r - 1]? = some prev ∧ pid ∈ prev.map (·.id) := by
  obtain ⟨j, rfl⟩ : ∃ j, r = j + 1 := ⟨r - 1, (Nat.sub_add_cancel hr).symm⟩
  have hlt : j < b.rounds.length := Nat.lt_of_succ_lt (List.lt_length_of_getElem? hl)
  exact ⟨b.rounds[j], List.getElem?_eq_getElem hlt,
    h.past_sub j _ l (List.getElem?_eq_getElem hlt) hl pid ((mem_pasts l pid).mpr ⟨_, hmem, rfl⟩)⟩

theorem binv_new (cfg : Cfg) (n num : Nat) : BInv cfg n (newBracket num) := by
  have key : ∀ (r : Nat) (l : List Entry), (newBracket num).rounds[r]? = some l → l = [] :=
    fun r l hl => List.eq_of_mem_replicate (List.mem_of_getElem? hl)
  constructor
  case len => exact List.length_replicate
  case size_ok =>
    intro r l hl
    obtain rfl := key r l hl
    exact Nat.zero_le _
  case ids_lt =>
    intro r l hl e he
    obtain rfl := key r l hl
    cases he
  case ids_nodup =>
    intro r l hl
    obtain rfl := key r l hl
    exact List.nodup_nil
  case past_nodup =>
    intro r l hl
    obtain rfl := key r l hl
    exact List.nodup_nil
  case past_sub =>
    intro r prev cur _ hc i hi
    obtain rfl := key _ cur hc
    cases hi
  case past_len =>
    intro r cur hc
    obtain rfl := key _ cur hc
    rfl

theorem getElem?_addEntry (b : Bracket) (r j : Nat) (e : Entry) :
    (addEntry b r e).rounds[j]? = if r = j then (b.rounds[j]?).map (fun l => l ++ [e]) else b.rounds[j]? :=
  List.getElem?_modify_ite _ r b.rounds j

@[simp] theorem addEntry_num (b : Bracket) (r : Nat) (e : Entry) : (addEntry b r e).num = b.num := rfl

theorem addEntry_round {b : Bracket} {r : Nat} {l : List Entry} (hl : b.rounds[r]? = some l) (e : Entry) (i : Nat)
    (l' : List Entry) :
    (addEntry b r e).rounds[i]? = some l' ↔ (i = r ∧ l' = l ++ [e]) ∨ (i ≠ r ∧ b.rounds[i]? = some l') := by
  rw [getElem?_addEntry]
  by_cases h : r = i
  · subst h; simp [hl, eq_comm]
  · simp [h, Ne.symm h]

theorem pasts_append (l : List Entry) (e : Entry) : pasts (l ++ [e]) = pasts l ++ e.past.toList := by
  simp only [pasts, List.filterMap_append, List.filterMap_cons, List.filterMap_nil]
  cases e.past <;> rfl

theorem binv_addEntry {cfg : Cfg} {n : Nat} {b : Bracket} (h : BInv cfg n b) {r : Nat} {l : List Entry} (past : Option Nat)
    (hl : b.rounds[r]? = some l) (hroom : l.length < cfg.size b.num r)
    (hnew : ∀ pid, past = some pid → pid ∉ pasts l)
    (hpar : ∀ j, r = j + 1 → ∃ pid prev, past = some pid ∧ b.rounds[j]? = some prev ∧ pid ∈ prev.map (·.id)) :
    BInv cfg (n + 1) (addEntry b r ⟨n, past⟩) := by
  have get := fun i l' => (addEntry_round hl ⟨n, past⟩ i l').mp
  have hp : pasts (l ++ [⟨n, past⟩]) = pasts l ++ past.toList := pasts_append l ⟨n, past⟩
  constructor
  case len => exact (List.length_modify _ _ _).trans h.len
  case size_ok =>
    intro i l' hl'
    rcases get i l' hl' with ⟨rfl, rfl⟩ | ⟨_, hl'⟩
    · rw [List.length_append]; exact hroom
    · exact h.size_ok i l' hl'
  case ids_lt =>
    intro i l' hl' e he
    rcases get i l' hl' with ⟨rfl, rfl⟩ | ⟨_, hl'⟩
    · rcases List.mem_append.mp he with he | he
      · exact Nat.lt_succ_of_lt (h.ids_lt _ l hl e he)
      · rw [List.mem_singleton.mp he]; exact Nat.lt_succ_self n
    · exact Nat.lt_succ_of_lt (h.ids_lt i l' hl' e he)
  case ids_nodup =>
    intro i l' hl'
    rcases get i l' hl' with ⟨rfl, rfl⟩ | ⟨_, hl'⟩
    · -- the new id is `n`, the old ones are below `n`
      rw [List.map_append]
      refine List.nodup_append_singleton.mpr ⟨h.ids_nodup _ l hl, fun hm => ?_⟩
      obtain ⟨e, he, hid⟩ := List.mem_map.mp hm
      exact absurd (h.ids_lt _ l hl e he) (by rw [hid]; exact Nat.lt_irrefl n)
    · exact h.ids_nodup i l' hl'
  case past_nodup =>
    intro i l' hl'
    rcases get i l' hl' with ⟨rfl, rfl⟩ | ⟨_, hl'⟩
    · rw [hp]
      cases hpast : past with
      | none => rw [Option.toList_none, List.append_nil]; exact h.past_nodup _ l hl
      | some pid => exact List.nodup_append_singleton.mpr ⟨h.past_nodup _ l hl, hnew pid hpast⟩
    · exact h.past_nodup i l' hl'
  case past_sub =>
    intro i prev cur hprev hcur p hpm
    rcases get (i + 1) cur hcur with ⟨hi, rfl⟩ | ⟨_, hcur'⟩
    · -- `cur` is the extended round: its new parent comes from the round before
      obtain ⟨pid, prev', hpast, hprev', hmem⟩ := hpar i hi.symm
      rcases get i prev hprev with ⟨hi', _⟩ | ⟨_, hprev''⟩
      · exact absurd (hi.trans hi'.symm) (Nat.succ_ne_self i)
      · rw [hprev'] at hprev''; cases hprev''
        rw [hp, hpast] at hpm
        rcases List.mem_append.mp hpm with hpm | hpm
        · exact h.past_sub i prev l hprev' (hi ▸ hl) p hpm
        · rw [List.mem_singleton.mp hpm]; exact hmem
    · rcases get i prev hprev with ⟨rfl, rfl⟩ | ⟨_, hprev'⟩
      · -- `prev` is the extended round: it only grew
        rw [List.map_append]; exact List.mem_append_left _ (h.past_sub _ l cur hl hcur' p hpm)
      · exact h.past_sub i prev cur hprev' hcur' p hpm
  case past_len =>
    intro i cur hcur
    rcases get (i + 1) cur hcur with ⟨hi, rfl⟩ | ⟨_, hcur'⟩
    · obtain ⟨pid, _, hpast, _⟩ := hpar i hi.symm
      rw [hp, hpast, List.length_append, List.length_append, h.past_len i l (hi ▸ hl)]; rfl
    · exact h.past_len i cur hcur'

theorem binv_add_random (cfg : Cfg) (n : Nat) (b : Bracket) (h : BInv cfg n b) (r0 : List Entry) (rest : List (List Entry))
    (hr : b.rounds = r0 :: rest) (hlt : r0.length < cfg.size b.num 0) :
    BInv cfg (n + 1) (addEntry b 0 ⟨n, none⟩) :=
  binv_addEntry h none (by rw [hr]; rfl) hlt (fun _ h => nomatch h) (fun _ h => nomatch h)

#print axioms HB.binv_add_random

theorem promote_room {o : O} {cfg : Cfg} {n : Nat} {b : Bracket} (h : BInv cfg n b) {j : Nat} {prev cur : List Entry}
    (hp : b.rounds[j]? = some prev) (hc : b.rounds[j + 1]? = some cur)
    (hsz : cfg.size b.num j - cfg.size b.num (j + 1) < (candidates o prev cur).length) :
    cur.length < cfg.size b.num (j + 1) := by
  -- the candidates and the parents already selected are distinct members of the round before, which is within its size
  have hcnt := candidates_count o prev cur (h.ids_nodup j prev hp) (h.past_nodup (j + 1) cur hc) (h.past_sub j prev cur hp hc)
  rw [h.past_len j cur hc, Nat.add_comm] at hcnt
  exact Rank.lt_of_add_le_of_sub_lt (Nat.le_trans hcnt (h.size_ok j prev hp)) hsz

theorem binv_add_promote (o : O) (cfg : Cfg) (n : Nat) (b : Bracket) (h : BInv cfg n b)
    (j pid : Nat) (prev cur : List Entry)
    (hp : b.rounds[j]? = some prev) (hc : b.rounds[j + 1]? = some cur)
    (hsz : cfg.size b.num j - cfg.size b.num (j + 1) < (candidates o prev cur).length)
    (sc : Int) (hb : bestOf cfg.minimize (candidates o prev cur) = some (pid, sc)) :
    BInv cfg (n + 1) (addEntry b (j + 1) ⟨n, some pid⟩) := by
  obtain ⟨⟨e0, he0, hid0⟩, hnsel, _⟩ := mem_candidates o prev cur _ (bestOf_mem _ _ _ hb)
  refine binv_addEntry h (some pid) hc (promote_room h hp hc hsz) (fun _ hpid hm => ?_)
    (fun _ hj => ⟨pid, prev, rfl, Nat.succ.inj hj ▸ hp, List.mem_map.mpr ⟨e0, he0, hid0⟩⟩)
  cases hpid
  obtain ⟨c, hcm, hcp⟩ := (mem_pasts cur pid).mp hm
  exact hnsel c hcm hcp

end HB
#print axioms HB.binv_add_promote
