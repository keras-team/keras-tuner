import Ktm.RandomEnum
import Ktm.Transforms
import Ktm.Core
/-! C05 / C06 / C12: `RandomSearchOracle.populate_space` with `_random_values` as the code runs it — one
    seeded draw per *active* entry, seed counter advanced by one each time, resample on collision with the
    tried set, give up after `max_collisions + 1` collisions. The PRNG itself is an input: `draw seed` is
    what `random.Random(seed).random()` returns (as an exact ratio), `none` = that seed was never drawn. -/
namespace RandomSeeded
open Core GridSucc

structure St where
  space : List GHP
  perms : List (Nat × List Nat)      -- per name: grid index of the i-th element of `hp.values` (sampling order)
  seed : Nat                         -- `_seed_state`
  tried : List Env                   -- `_tried_so_far` (the hash is modelled as the assignment itself)
  maxCollisions : Nat

/-- index (into the grid-ordered value list) chosen for entry `h` by the draw of seed `k` -/
def pickIdx (draw : Nat → Option (Nat × Nat)) (perms : List (Nat × List Nat)) (k : Nat) (h : GHP) : Nat :=
  match draw k, perms.lookup h.name with
  | some (num, den), some perm => perm.getD (Transforms.probToIndex num den perm.length) 0
  | _, _ => 0

/-- one pass of the `for hp in space` loop starting with seed `k` -/
def pass (draw : Nat → Option (Nat × Nat)) (s : St) (k : Nat) : Env × Nat :=
  sample (pickIdx draw s.perms) s.space [] k

/-- `_random_values`: at most `fuel` passes; returns the first untried assignment and the seed state -/
def randomValues (draw : Nat → Option (Nat × Nat)) (s : St) : Nat → Nat → Option Env × Nat
  | 0, k => (none, k)
  | fuel + 1, k =>
    let r := pass draw s k
    if s.tried.contains r.1 then randomValues draw s fuel r.2 else (some r.1, r.2)

def populate (draw : Nat → Option (Nat × Nat)) (o : Oracle Env St) (_choice : Nat) : St × Pop Env :=
  let s := o.alg
  match randomValues draw s (s.maxCollisions + 1) s.seed with
  | (some v, k) => ({ s with seed := k, tried := s.tried ++ [v] }, .run v)
  | (none, k) => ({ s with seed := k }, .stop)

def alg (draw : Nat → Option (Nat × Nat)) : Alg Env St :=
  { populate := populate draw, onEnd := fun s _ => s, scoreOf := fun l => l.getLast?.join }

theorem pass_seed_count (draw : Nat → Option (Nat × Nat)) (s : St) (k : Nat) :
    (pass draw s k).2 = k + (pass draw s k).1.length := by
  obtain ⟨b, hb⟩ := sample_eq_append (pickIdx draw s.perms) s.space [] k
  rw [pass, hb]
  rfl

/-- every sampled assignment is one of the enumerated combinations — hence (by `enum_exact`) it assigns
    exactly the active entries, each a member of its value list — and it was not tried before -/
theorem randomValues_spec (draw : Nat → Option (Nat × Nat)) (s : St) (hv : ∀ g ∈ s.space, g.vals ≠ [])
    (fuel k : Nat) (v : Env) (k' : Nat) (h : randomValues draw s fuel k = (some v, k')) :
    v ∈ enum s.space [] ∧ v ∉ s.tried ∧ k ≤ k' := by
  induction fuel generalizing k with
  | zero => cases h
  | succ fuel ih =>
    have hk : k ≤ (pass draw s k).2 := pass_seed_count draw s k ▸ Nat.le_add_right _ _
    rw [randomValues] at h
    split at h
    · obtain ⟨h1, h2, h3⟩ := ih _ h
      exact ⟨h1, h2, Nat.le_trans hk h3⟩
    · next hnt =>
      cases h
      exact ⟨sample_mem_enum _ _ hv _ _, mt List.contains_iff_mem.mpr hnt, hk⟩

/-- giving up is bounded: `none` is returned only after `fuel` passes that all collided -/
theorem randomValues_none (draw : Nat → Option (Nat × Nat)) (s : St) (fuel k k' : Nat)
    (h : randomValues draw s fuel k = (none, k')) :
    ∃ ks : List Nat, ks.length = fuel ∧ ∀ j ∈ ks, s.tried.contains (pass draw s j).1 = true := by
  induction fuel generalizing k with
  | zero => exact ⟨[], rfl, nofun⟩
  | succ fuel ih =>
    rw [randomValues] at h
    split at h
    · next hc =>
      obtain ⟨ks, hl, hall⟩ := ih _ h
      exact ⟨k :: ks, congrArg Nat.succ hl, List.forall_mem_cons.mpr ⟨hc, hall⟩⟩
    · cases h

end RandomSeeded
#print axioms RandomSeeded.randomValues_spec
