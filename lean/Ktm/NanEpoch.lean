import Ktm.ListLemmas
/-! C18 — `_get_best_value_and_best_epoch_from_history` on a curve with NaN epochs (`none` = NaN), already framed so that
smaller is better. The code scans the epochs in order: the first epoch is the initial best; a later epoch replaces it only if it is
strictly better, and `better_than` is false whenever a NaN is involved. Hence: if the first epoch is a number, the result is the FIRST
epoch attaining the minimum over the numeric epochs — a NaN epoch is never chosen; if the first epoch is NaN it stays (nothing compares
better than NaN). -/
namespace NanEpoch

/-- strict `better_than` on framed values; false if either side is NaN -/
def better : Option Int → Option Int → Bool
  | some a, some b => a < b
  | _, _ => false

/-- the scanning loop: `(best index, best value)` so far, next index -/
def scan : List (Option Int) → Nat → Option Int → Nat → Nat × Option Int
  | [], bi, bv, _ => (bi, bv)
  | v :: vs, bi, bv, i => if better v bv then scan vs i v (i + 1) else scan vs bi bv (i + 1)

def bestEpoch : List (Option Int) → Option (Nat × Option Int)
  | [] => none
  | v :: vs => some (scan vs 0 v 1)

def FirstNumMin (l : List (Option Int)) (i : Nat) (m : Int) : Prop :=
  l[i]? = some (some m) ∧ (∀ (j : Nat) (w : Int), l[j]? = some (some w) → m ≤ w) ∧
  (∀ (j : Nat) (w : Int), j < i → l[j]? = some (some w) → m < w)

theorem FirstNumMin.snoc_keep {pre : List (Option Int)} {bi : Nat} {m : Int} (h : FirstNumMin pre bi m)
    (v : Option Int) (hv : better v (some m) = false) : FirstNumMin (pre ++ [v]) bi m := by
  obtain ⟨hget, hmin, hfirst⟩ := h
  have hbi : bi < pre.length := List.lt_length_of_getElem? hget
  refine ⟨by rw [List.getElem?_append_left hbi]; exact hget, fun j w hj => ?_, fun j w hlt hj => ?_⟩
  · rcases List.getElem?_concat_some hj with hj | ⟨_, rfl⟩
    · exact hmin j w hj
    · exact Int.not_lt.mp (of_decide_eq_false hv)
  · rw [List.getElem?_append_left (Nat.lt_trans hlt hbi)] at hj
    exact hfirst j w hlt hj

theorem FirstNumMin.snoc_new {pre : List (Option Int)} {bi : Nat} {m x : Int} (h : FirstNumMin pre bi m)
    (hx : x < m) : FirstNumMin (pre ++ [some x]) pre.length x := by
  obtain ⟨_, hmin, _⟩ := h
  refine ⟨List.getElem?_concat_length, fun j w hj => ?_, fun j w hlt hj => ?_⟩
  · rcases List.getElem?_concat_some hj with hj | ⟨_, hw⟩
    · exact Int.le_of_lt (Int.lt_of_lt_of_le hx (hmin j w hj))
    · cases hw; exact Int.le_refl _
  · rw [List.getElem?_append_left hlt] at hj
    exact Int.lt_of_lt_of_le hx (hmin j w hj)

/-- the loop's invariant: having scanned `pre`, it holds the first minimum of the numeric epochs of `pre` -/
theorem scan_spec (pre vs : List (Option Int)) (bi : Nat) (m : Int) (h : FirstNumMin pre bi m) :
    ∃ m', (scan vs bi (some m) pre.length).2 = some m' ∧
      FirstNumMin (pre ++ vs) (scan vs bi (some m) pre.length).1 m' := by
  induction vs generalizing pre bi m with
  | nil => exact ⟨m, rfl, by rwa [List.append_nil]⟩
  | cons v vs ih =>
    have hlen : pre.length + 1 = (pre ++ [v]).length := (List.length_append (as := pre) (bs := [v])).symm
    rw [scan, List.append_cons, hlen]
    cases hb : better v (some m) with
    | false =>
      rw [if_neg Bool.false_ne_true]
      exact ih _ _ _ (h.snoc_keep v hb)
    | true =>
      rw [if_pos rfl]
      -- only a number beats a number
      cases v with
      | none => exact absurd hb Bool.false_ne_true
      | some x => exact ih _ _ _ (h.snoc_new (of_decide_eq_true hb))

/-- a NaN epoch is never the best one: when the first epoch is a number, the chosen epoch is the first one attaining the minimum
    over the numeric epochs -/
theorem best_epoch_ignores_nan (m : Int) (vs : List (Option Int)) :
    ∃ i m', bestEpoch (some m :: vs) = some (i, some m') ∧ FirstNumMin (some m :: vs) i m' := by
  have h0 : FirstNumMin [some m] 0 m := by
    refine ⟨rfl, fun j w hj => ?_, fun j w hj => absurd hj (Nat.not_lt_zero j)⟩
    cases j with
    | zero => cases hj; exact Int.le_refl m
    | succ j => cases hj
  obtain ⟨m', he, hf⟩ := scan_spec [some m] vs 0 m h0
  exact ⟨_, m', by rw [bestEpoch, ← he]; rfl, hf⟩

/-- a NaN at the very first epoch stays: nothing compares better than it -/
theorem nan_first_stays (vs : List (Option Int)) : bestEpoch (none :: vs) = some (0, none) := by
  simp only [bestEpoch]
  suffices h : ∀ (vs : List (Option Int)) (i : Nat), scan vs 0 none i = (0, none) from by rw [h]
  intro vs
  induction vs with
  | nil => intro i; rfl
  | cons v vs ih =>
    intro i
    have hb : better v none = false := by cases v <;> rfl
    simp only [scan, hb, Bool.false_eq_true, if_false]
    exact ih (i + 1)

example : bestEpoch [some 0, some (-1), some (-1), some (-1), some 0, none, some (-2)] = some (6, some (-2)) := by decide

end NanEpoch
#print axioms NanEpoch.best_epoch_ignores_nan
