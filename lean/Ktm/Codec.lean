/-! C15: the JSON-compatible configs of hyperparameters, conditions, the `HyperParameters` container,
    metric observations / histories / trackers and trials, as JSON trees; `toJ` is what `get_config` /
    `get_state` produce, `fromJ` what `from_config` / `from_state` read. Floats are opaque tokens (the exact
    ratio text the harness computes): the codec never computes with them. -/
namespace Codec

inductive J
  | null | bool (b : Bool) | int (i : Int) | flt (tok : String) | str (s : String)
  | arr (xs : List J) | obj (kvs : List (String × J))
  deriving Repr, Inhabited

partial def J.beq : J → J → Bool
  | .null, .null => true
  | .bool a, .bool b => a == b
  | .int a, .int b => a == b
  | .flt a, .flt b => a == b
  | .str a, .str b => a == b
  | .arr a, .arr b => a.length == b.length && (a.zip b).all (fun p => J.beq p.1 p.2)
  | .obj a, .obj b => a.length == b.length && (a.zip b).all (fun p => p.1.1 == p.2.1 && J.beq p.1.2 p.2.2)
  | _, _ => false

/-- canonical text: keys sorted, floats as their tokens -/
partial def J.print : J → String
  | .null => "null" | .bool b => if b then "true" else "false" | .int i => toString i
  | .flt t => "f:" ++ t | .str s => "\"" ++ s.replace "\n" "\\n" ++ "\""
  | .arr xs => "[" ++ String.intercalate "," (xs.map J.print) ++ "]"
  | .obj kvs => "{" ++ String.intercalate "," (((kvs.toArray.qsort (fun a b => a.1 < b.1)).toList).map (fun p => "\"" ++ p.1 ++ "\":" ++ J.print p.2)) ++ "}"

def J.get (j : J) (k : String) : Option J :=
  match j with
  | .obj kvs => (kvs.find? (·.1 == k)).map (·.2)
  | _ => none

/-- a hyperparameter value or bound -/
inductive Val | int (i : Int) | flt (tok : String) | str (s : String) | bool (b : Bool)
  deriving DecidableEq, Repr

def Val.toJ : Val → J
  | .int i => .int i | .flt t => .flt t | .str s => .str s | .bool b => .bool b
def Val.fromJ : J → Option Val
  | .int i => some (.int i) | .flt t => some (.flt t) | .str s => some (.str s) | .bool b => some (.bool b)
  | _ => none

theorem Val.roundtrip (v : Val) : Val.fromJ v.toJ = some v := by cases v <;> rfl

def valsFromJ : List J → Option (List Val)
  | [] => some []
  | x :: xs => match Val.fromJ x, valsFromJ xs with
    | some v, some vs => some (v :: vs)
    | _, _ => none

theorem vals_roundtrip (l : List Val) : valsFromJ (l.map Val.toJ) = some l := by
  induction l with
  | nil => rfl
  | cons v vs ih => rw [List.map_cons, valsFromJ, Val.roundtrip, ih]

def optToJ (o : Option Val) : J := match o with | some v => v.toJ | none => .null
def optFromJ (j : J) : Option (Option Val) := match j with | .null => some none | x => (Val.fromJ x).map some
theorem opt_roundtrip (o : Option Val) : optFromJ (optToJ o) = some o := by
  cases o with
  | none => rfl
  | some v => cases v <;> rfl

structure Cond where
  name : String
  vals : List Val
  deriving DecidableEq, Repr

def Cond.toJ (c : Cond) : J :=
  .obj [("class_name", .str "Parent"), ("config", .obj [("name", .str c.name), ("values", .arr (c.vals.map Val.toJ))])]

def Cond.fromJ (j : J) : Option Cond :=
  match j.get "class_name", j.get "config" with
  | some (.str "Parent"), some cfg =>
    match cfg.get "name", cfg.get "values" with
    | some (.str n), some (.arr vs) => (valsFromJ vs).map (fun vs => ⟨n, vs⟩)
    | _, _ => none
  | _, _ => none

theorem Cond.roundtrip (c : Cond) : Cond.fromJ c.toJ = some c := by
  simp only [Cond.fromJ, Cond.toJ, J.get, List.find?, String.reduceBEq, vals_roundtrip, Option.map_some]

def condsFromJ : List J → Option (List Cond)
  | [] => some []
  | x :: xs => match Cond.fromJ x, condsFromJ xs with
    | some c, some cs => some (c :: cs)
    | _, _ => none

theorem conds_roundtrip (l : List Cond) : condsFromJ (l.map Cond.toJ) = some l := by
  induction l with
  | nil => rfl
  | cons c cs ih => rw [List.map_cons, condsFromJ, Cond.roundtrip, ih]

/-- the five kinds with every configured field (`default` is the explicit default, `none` = not given) -/
inductive Kind
  | int (lo hi : Val) (step : Option Val) (sampling : String) (dflt : Option Val)
  | float (lo hi : Val) (step : Option Val) (sampling : String) (dflt : Option Val)
  | choice (vals : List Val) (ordered : Bool) (dflt : Option Val)
  | boolean (dflt : Val)
  | fixed (v : Val)
  deriving DecidableEq, Repr

structure HP where
  name : String
  conds : List Cond
  kind : Kind
  deriving DecidableEq, Repr

def HP.toJ (h : HP) : J :=
  let base := [("name", J.str h.name), ("conditions", J.arr (h.conds.map Cond.toJ))]
  match h.kind with
  | .int lo hi st sa d => .obj [("class_name", .str "Int"), ("config", .obj (base ++ [("default", optToJ d), ("min_value", lo.toJ),
      ("max_value", hi.toJ), ("step", optToJ st), ("sampling", .str sa)]))]
  | .float lo hi st sa d => .obj [("class_name", .str "Float"), ("config", .obj (base ++ [("default", optToJ d), ("min_value", lo.toJ),
      ("max_value", hi.toJ), ("step", optToJ st), ("sampling", .str sa)]))]
  | .choice vs ord d => .obj [("class_name", .str "Choice"), ("config", .obj (base ++ [("default", optToJ d),
      ("values", .arr (vs.map Val.toJ)), ("ordered", .bool ord)]))]
  | .boolean d => .obj [("class_name", .str "Boolean"), ("config", .obj (base ++ [("default", d.toJ)]))]
  | .fixed v => .obj [("class_name", .str "Fixed"), ("config", .obj (base ++ [("value", v.toJ)]))]

def numericFromJ (cfg : J) : Option (Val × Val × Option Val × String × Option Val) :=
  match cfg.get "min_value", cfg.get "max_value", cfg.get "step", cfg.get "sampling", cfg.get "default" with
  | some lo, some hi, some st, some (.str sa), some d =>
    match Val.fromJ lo, Val.fromJ hi, optFromJ st, optFromJ d with
    | some lo, some hi, some st, some d => some (lo, hi, st, sa, d)
    | _, _, _, _ => none
  | _, _, _, _, _ => none

def HP.fromJ (j : J) : Option HP :=
  match j.get "class_name", j.get "config" with
  | some (.str cls), some cfg =>
    match cfg.get "name", cfg.get "conditions" with
    | some (.str n), some (.arr cs) =>
      match condsFromJ cs with
      | none => none
      | some cs =>
        if cls == "Int" then (numericFromJ cfg).map (fun (lo, hi, st, sa, d) => ⟨n, cs, .int lo hi st sa d⟩)
        else if cls == "Float" then (numericFromJ cfg).map (fun (lo, hi, st, sa, d) => ⟨n, cs, .float lo hi st sa d⟩)
        else if cls == "Choice" then
          match cfg.get "values", cfg.get "ordered", cfg.get "default" with
          | some (.arr vs), some (.bool ord), some d =>
            match valsFromJ vs, optFromJ d with
            | some vs, some d => some ⟨n, cs, .choice vs ord d⟩
            | _, _ => none
          | _, _, _ => none
        else if cls == "Boolean" then
          match cfg.get "default" with
          | some d => (Val.fromJ d).map (fun d => ⟨n, cs, .boolean d⟩)
          | none => none
        else if cls == "Fixed" then
          match cfg.get "value" with
          | some v => (Val.fromJ v).map (fun v => ⟨n, cs, .fixed v⟩)
          | none => none
        else none
    | _, _ => none
  | _, _ => none

theorem HP.roundtrip (h : HP) : HP.fromJ h.toJ = some h := by
  obtain ⟨n, cs, k⟩ := h
  -- `↓reduceIte` decides each `if cls == …` before simp enters its branches, which is several times less work
  cases k <;>
    simp only [HP.fromJ, HP.toJ, numericFromJ, J.get, List.find?, String.reduceBEq, List.cons_append, List.nil_append,
      conds_roundtrip, vals_roundtrip, Val.roundtrip, opt_roundtrip, Option.map_some, ↓reduceIte, Bool.false_eq_true]

def hpsFromJ : List J → Option (List HP)
  | [] => some []
  | x :: xs => match HP.fromJ x, hpsFromJ xs with
    | some h, some hs => some (h :: hs)
    | _, _ => none

theorem hps_roundtrip (l : List HP) : hpsFromJ (l.map HP.toJ) = some l := by
  induction l with
  | nil => rfl
  | cons h hs ih => rw [List.map_cons, hpsFromJ, HP.roundtrip, ih]

/-- the container: space in order, values by name -/
structure Space where
  hps : List HP
  values : List (String × Val)
  deriving DecidableEq, Repr

def Space.toJ (s : Space) : J :=
  .obj [("space", .arr (s.hps.map HP.toJ)), ("values", .obj (s.values.map (fun p => (p.1, p.2.toJ))))]

def kvsFromJ : List (String × J) → Option (List (String × Val))
  | [] => some []
  | (k, x) :: xs => match Val.fromJ x, kvsFromJ xs with
    | some v, some vs => some ((k, v) :: vs)
    | _, _ => none

theorem kvs_roundtrip (l : List (String × Val)) : kvsFromJ (l.map (fun p => (p.1, p.2.toJ))) = some l := by
  induction l with
  | nil => rfl
  | cons p ps ih => rw [List.map_cons, kvsFromJ, Val.roundtrip, ih]

def Space.fromJ (j : J) : Option Space :=
  match j.get "space", j.get "values" with
  | some (.arr hs), some (.obj kvs) =>
    match hpsFromJ hs, kvsFromJ kvs with
    | some hs, some vs => some ⟨hs, vs⟩
    | _, _ => none
  | _, _ => none

theorem Space.roundtrip (s : Space) : Space.fromJ s.toJ = some s := by
  simp only [Space.fromJ, Space.toJ, J.get, List.find?, String.reduceBEq, hps_roundtrip, kvs_roundtrip, Option.map_some]

/-- copying a space is `from_config ∘ get_config`: an equal value; being a value, it is independent -/
def Space.copy (s : Space) : Option Space := Space.fromJ s.toJ

structure Obs where
  step : Int
  vals : List Val          -- float tokens (incl. nan / inf)
  deriving DecidableEq, Repr

def Obs.toJ (o : Obs) : J := .obj [("value", .arr (o.vals.map Val.toJ)), ("step", .int o.step)]
def Obs.fromJ (j : J) : Option Obs :=
  match j.get "value", j.get "step" with
  | some (.arr vs), some (.int s) => (valsFromJ vs).map (fun vs => ⟨s, vs⟩)
  | _, _ => none
theorem Obs.roundtrip (o : Obs) : Obs.fromJ o.toJ = some o := by
  simp only [Obs.fromJ, Obs.toJ, J.get, List.find?, String.reduceBEq, vals_roundtrip, Option.map_some]

def obsFromJ : List J → Option (List Obs)
  | [] => some []
  | x :: xs => match Obs.fromJ x, obsFromJ xs with
    | some o, some os => some (o :: os)
    | _, _ => none
theorem obs_roundtrip (l : List Obs) : obsFromJ (l.map Obs.toJ) = some l := by
  induction l with
  | nil => rfl
  | cons o os ih => rw [List.map_cons, obsFromJ, Obs.roundtrip, ih]

structure Hist where
  direction : String
  obs : List Obs           -- in step order (`get_config` writes `get_history()`)
  deriving DecidableEq, Repr

def Hist.toJ (h : Hist) : J := .obj [("direction", .str h.direction), ("observations", .arr (h.obs.map Obs.toJ))]
def Hist.fromJ (j : J) : Option Hist :=
  match j.get "direction", j.get "observations" with
  | some (.str d), some (.arr os) => (obsFromJ os).map (fun os => ⟨d, os⟩)
  | _, _ => none
theorem Hist.roundtrip (h : Hist) : Hist.fromJ h.toJ = some h := by
  simp only [Hist.fromJ, Hist.toJ, J.get, List.find?, String.reduceBEq, obs_roundtrip, Option.map_some]

def histsFromJ : List (String × J) → Option (List (String × Hist))
  | [] => some []
  | (k, x) :: xs => match Hist.fromJ x, histsFromJ xs with
    | some h, some hs => some ((k, h) :: hs)
    | _, _ => none
theorem hists_roundtrip (l : List (String × Hist)) : histsFromJ (l.map (fun p => (p.1, p.2.toJ))) = some l := by
  induction l with
  | nil => rfl
  | cons p ps ih => rw [List.map_cons, histsFromJ, Hist.roundtrip, ih]

structure Trial where
  id : String
  space : Space
  metrics : List (String × Hist)
  score : Option Val
  bestStep : Option Val
  status : String
  message : Option Val
  deriving DecidableEq, Repr

def Trial.toJ (t : Trial) : J :=
  .obj [("trial_id", .str t.id), ("hyperparameters", t.space.toJ),
        ("metrics", .obj [("metrics", .obj (t.metrics.map (fun p => (p.1, p.2.toJ))))]),
        ("score", optToJ t.score), ("best_step", optToJ t.bestStep), ("status", .str t.status), ("message", optToJ t.message)]

def Trial.fromJ (j : J) : Option Trial :=
  match j.get "trial_id", j.get "hyperparameters", j.get "metrics", j.get "score", j.get "best_step", j.get "status", j.get "message" with
  | some (.str id), some sp, some m, some sc, some bs, some (.str st), some msg =>
    match Space.fromJ sp, m.get "metrics", optFromJ sc, optFromJ bs, optFromJ msg with
    | some sp, some (.obj ms), some sc, some bs, some msg =>
      (histsFromJ ms).map (fun ms => ⟨id, sp, ms, sc, bs, st, msg⟩)
    | _, _, _, _, _ => none
  | _, _, _, _, _, _, _ => none

theorem Trial.roundtrip (t : Trial) : Trial.fromJ t.toJ = some t := by
  simp only [Trial.fromJ, Trial.toJ, J.get, List.find?, String.reduceBEq, Space.roundtrip, hists_roundtrip, opt_roundtrip,
    Option.map_some]

end Codec
#print axioms Codec.Trial.roundtrip
#print axioms Codec.HP.roundtrip
