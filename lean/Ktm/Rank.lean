/-! C10: the counting argument behind Hyperband's promotion rank, over plain lists. -/
namespace Rank

theorem countP_le_length_filter_not_contains {α} [DecidableEq α] (R C : List α) (p : α → Bool)
    (hC : ∀ c ∈ C, p c = false) :
    R.countP p ≤ (R.filter (fun x => !(C.contains x))).length := by
  rw [← List.countP_eq_length_filter]
  refine List.countP_mono_left fun x _ hp => ?_
  simp only [List.contains_eq_mem, Bool.not_eq_eq_eq_not, Bool.not_true, decide_eq_false_iff_not]
  intro hx
  rw [hC x hx] at hp
  cases hp

theorem length_filter_not_contains_add_length {α} [DecidableEq α] (R C : List α)
    (hnodupC : C.Nodup) (hnodupR : R.Nodup) (hsub : ∀ c ∈ C, c ∈ R) :
    (R.filter (fun x => !(C.contains x))).length + C.length = R.length := by
  -- the members of `R` inside `C` are `C` up to order
  have hperm : (R.filter (fun x => C.contains x)).Perm C :=
    (List.perm_ext_iff_of_nodup (hnodupR.filter _) hnodupC).mpr fun a => by
      simp only [List.mem_filter, List.contains_eq_mem, decide_eq_true_eq]
      exact ⟨fun h => h.2, fun h => ⟨hsub a h, h⟩⟩
  have h := (List.filter_append_perm (fun x => C.contains x) R).length_eq
  rwa [List.length_append, hperm.length_eq, Nat.add_comm] at h

theorem lt_of_add_le_of_sub_lt {x c P S : Nat} (h : x + c ≤ P) (hc : P - S < c) : x < S :=
  -- otherwise `c + S ≤ x + c ≤ P`, that is `c ≤ P - S`
  Nat.lt_of_not_le fun hle => Nat.not_le_of_lt hc
    (Nat.le_sub_of_add_le (Nat.le_trans (Nat.add_comm c S ▸ Nat.add_le_add_right hle c) h))

/-- C10 promotion bound: `R` = final previous round (≤ P entries), `C` = candidates at promotion
    time (more than `P - S` of them), nobody in `C` is strictly better than the promoted one:
    then fewer than `S` members of `R` are strictly better. -/
theorem promotion_bound {α} [DecidableEq α] (R C : List α) (better : α → Bool) (P S : Nat)
    (hR : R.length ≤ P) (hRn : R.Nodup) (hCn : C.Nodup) (hsub : ∀ c ∈ C, c ∈ R)
    (hC : P - S < C.length) (hbest : ∀ c ∈ C, better c = false) :
    R.countP better < S :=
  -- those that are better lie outside `C`, and `C` takes its share of `R`
  lt_of_add_le_of_sub_lt (Nat.le_trans (Nat.add_le_add_right (countP_le_length_filter_not_contains R C better hbest) _)
    (length_filter_not_contains_add_length R C hCn hRn hsub ▸ hR)) hC

theorem promotion_rank {α} [DecidableEq α] (R C : List α) (better : α → Bool) (P S : Nat)
    (hR : R.length ≤ P) (hRn : R.Nodup) (hCn : C.Nodup) (hsub : ∀ c ∈ C, c ∈ R)
    (hC : P - S < C.length) (hS : 0 < S) (hbest : ∀ c ∈ C, better c = false) :
    R.countP better < S :=
  promotion_bound R C better P S hR hRn hCn hsub hC hbest

end Rank
#print axioms Rank.promotion_rank
