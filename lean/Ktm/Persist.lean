import Ktm.Requeue
/-! C07/C08: trial files + oracle file, reload, and the disk/oracle consistency relation `DiskOK` that every prefix of the
    write sequence of an operation preserves. -/
namespace Core
variable {V A : Type}

structure TFile (V : Type) where
  vals : V
  status : Status
  score : Option Int
  reports : List (Option Int)

structure OFile (A : Type) where
  ongoing : List (Nat × Nat)
  retryQ : List Nat
  endOrder : List Nat
  runs : List Nat               -- `_run_times`, by trial id
  n : Nat                       -- length of `start_order`
  alg : A

structure Disk (V A : Type) where
  tfile : Nat → Option (TFile V)
  ofile : Option (OFile A)

def tfileOf (t : Trial V) : TFile V := ⟨t.vals, t.status, t.score, t.reports⟩

def ofileOf (o : Oracle V A) : OFile A :=
  ⟨o.ongoing, o.retryQ, o.endOrder, o.trials.map (·.runs), o.trials.length, o.alg⟩

def trialOfFile (f : TFile V) (runs : Nat) : Trial V := ⟨f.vals, f.status, runs, f.score, f.reports⟩

/-- trial files known to the oracle file, in id order (`none` if one is missing: reload error) -/
def loadTrials (d : Disk V A) (runs : List Nat) : Nat → Option (List (Trial V))
  | 0 => some []
  | k + 1 =>
    match loadTrials d runs k, d.tfile k with
    | some ts, some f => some (ts ++ [trialOfFile f (runs.getD k 0)])
    | _, _ => none

/-- `Oracle.reload` (repaired: trial files beyond `start_order` are ignored); `cfg` = freshly constructed oracle -/
def reload (cfg : Oracle V A) (d : Disk V A) : Option (Oracle V A) :=
  match d.ofile with
  | none => none
  | some f =>
    match loadTrials d f.runs f.n with
    | none => none
    | some ts =>
      some { cfg with trials := ts, ongoing := [], retryQ := f.retryQ ++ f.ongoing.map (·.2),
                      endOrder := f.endOrder, tunerIds := [], alg := f.alg }

/-- the disk agrees with memory on everything the oracle file holds, and on every trial that is not
    ongoing; for ongoing trials (and for ids not yet known to the oracle file) only the values are fixed -/
structure DiskOK (o : Oracle V A) (d : Disk V A) : Prop where
  ofile : ∃ a, d.ofile = some { ofileOf o with alg := a }
  tfiles : ∀ (i : Nat) (t : Trial V), o.trials[i]? = some t →
      ∃ f, d.tfile i = some f ∧ f.vals = t.vals ∧ (i ∉ o.ongoing.map (·.2) → f = tfileOf t)

/-- the trial-file half of `DiskOK` -/
abbrev FilesOK (o : Oracle V A) (d : Disk V A) : Prop :=
  ∀ (i : Nat) (t : Trial V), o.trials[i]? = some t →
    ∃ f, d.tfile i = some f ∧ f.vals = t.vals ∧ (i ∉ o.ongoing.map (·.2) → f = tfileOf t)

theorem loadTrials_eq_some {d : Disk V A} {runs : List Nat} {k : Nat} {ts : List (Trial V)}
    (h : loadTrials d runs k = some ts) :
    ts.length = k ∧ ∀ i, i < k → ∃ f, d.tfile i = some f ∧ ts[i]? = some (trialOfFile f (runs.getD i 0)) := by
  induction k generalizing ts with
  | zero =>
    cases h
    exact ⟨rfl, fun i hi => absurd hi (Nat.not_lt_zero i)⟩
  | succ k ih =>
    rw [loadTrials] at h
    split at h
    · next ts0 f h0 hf =>
      cases h
      obtain ⟨hlen, hget⟩ := ih h0
      refine ⟨by rw [List.length_append, hlen]; rfl, fun i hi => ?_⟩
      rcases Nat.lt_succ_iff_lt_or_eq.mp hi with hik | rfl
      · rw [List.getElem?_append_left (hlen ▸ hik)]
        exact hget i hik
      · exact ⟨f, hf, by rw [← hlen, List.getElem?_concat_length]⟩
    · cases h

theorem loadTrials_isSome {d : Disk V A} {runs : List Nat} {k : Nat} (h : ∀ i, i < k → (d.tfile i).isSome) :
    (loadTrials d runs k).isSome := by
  induction k with
  | zero => rfl
  | succ k ih =>
    obtain ⟨ts, h1⟩ := Option.isSome_iff_exists.mp (ih fun i hi => h i (Nat.lt_succ_of_lt hi))
    obtain ⟨f, h2⟩ := Option.isSome_iff_exists.mp (h k (Nat.lt_succ_self k))
    rw [loadTrials, h1, h2]
    rfl

theorem reload_eq_some {cfg r : Oracle V A} {d : Disk V A} (h : reload cfg d = some r) :
    ∃ f ts, d.ofile = some f ∧ loadTrials d f.runs f.n = some ts ∧
      r = { cfg with trials := ts, ongoing := [], retryQ := f.retryQ ++ f.ongoing.map (·.2),
                     endOrder := f.endOrder, tunerIds := [], alg := f.alg } := by
  unfold reload at h
  split at h
  · cases h
  · next f hf =>
    split at h
    · cases h
    · next ts hts => exact ⟨f, ts, hf, hts, (Option.some.inj h).symm⟩

theorem reload_maxTrials {cfg r : Oracle V A} {d : Disk V A} (h : reload cfg d = some r) : r.maxTrials = cfg.maxTrials := by
  obtain ⟨_, _, _, _, rfl⟩ := reload_eq_some h
  rfl

theorem reload_alg {cfg r : Oracle V A} {d : Disk V A} {f : OFile A} (h : reload cfg d = some r) (hf : d.ofile = some f) :
    r.alg = f.alg := by
  obtain ⟨f', _, hf', _, rfl⟩ := reload_eq_some h
  cases hf.symm.trans hf'
  rfl

theorem reload_of_diskOK (o cfg : Oracle V A) (d : Disk V A) (hd : DiskOK o d)
    (hcfg : cfg.maxTrials = o.maxTrials ∧ cfg.maxRetries = o.maxRetries ∧ cfg.maxConsec = o.maxConsec ∧
      cfg.aborted = o.aborted) :
    ∃ ts' a, reload cfg d = some (requeueWith o ts' a) ∧ ts'.length = o.trials.length ∧
      (∀ (i : Nat) (t : Trial V), o.trials[i]? = some t →
        ∃ t', ts'[i]? = some t' ∧ t'.vals = t.vals ∧ t'.runs = t.runs ∧ (i ∉ o.ongoing.map (·.2) → t' = t)) ∧
      ∀ (i : Nat), i ∉ o.ongoing.map (·.2) → ts'[i]? = o.trials[i]? := by
  obtain ⟨a, ha⟩ := hd.ofile
  have hfile : ∀ i, i < o.trials.length → (d.tfile i).isSome := fun i hi => by
    obtain ⟨f, hf, _⟩ := hd.tfiles i _ (List.getElem?_eq_getElem hi)
    rw [hf]; rfl
  obtain ⟨ts, hts⟩ := Option.isSome_iff_exists.mp (loadTrials_isSome (runs := o.trials.map (·.runs)) hfile)
  obtain ⟨hlen, hget⟩ := loadTrials_eq_some hts
  have hentry : ∀ (i : Nat) (t : Trial V), o.trials[i]? = some t →
      ∃ t', ts[i]? = some t' ∧ t'.vals = t.vals ∧ t'.runs = t.runs ∧ (i ∉ o.ongoing.map (·.2) → t' = t) := by
    intro i t hi
    obtain ⟨f, hf, hti⟩ := hget i (List.lt_length_of_getElem? hi)
    obtain ⟨f', hf', hv, he⟩ := hd.tfiles i t hi
    obtain rfl : f' = f := Option.some.inj (hf'.symm.trans hf)
    have hruns : (o.trials.map (·.runs)).getD i 0 = t.runs := by
      rw [List.getD_eq_getElem?_getD, List.getElem?_map, hi]; rfl
    rw [hruns] at hti
    exact ⟨_, hti, hv, rfl, fun hni => by rw [he hni]; rfl⟩
  refine ⟨ts, a, ?_, hlen, hentry, fun i hni => ?_⟩
  · obtain ⟨h1, h2, h3, h4⟩ := hcfg
    simp only [reload, ha, ofileOf, hts, requeueWith, h1, h2, h3, h4]
  · cases hi : o.trials[i]? with
    | none => exact List.getElem?_eq_none (hlen ▸ List.getElem?_eq_none_iff.mp hi)
    | some t =>
      obtain ⟨t', hti, _, _, he⟩ := hentry i t hi
      rw [hti, he hni]

/-- C07/C08 -/
theorem reload_eq_requeue (o cfg : Oracle V A) (d : Disk V A) (hd : DiskOK o d)
    (hcfg : cfg.maxTrials = o.maxTrials ∧ cfg.maxRetries = o.maxRetries ∧ cfg.maxConsec = o.maxConsec ∧ cfg.aborted = o.aborted) :
    ∃ ts' a, reload cfg d = some (requeueWith o ts' a) ∧ ts'.length = o.trials.length ∧
      ∀ (i : Nat), i ∉ o.ongoing.map (·.2) → ts'[i]? = o.trials[i]? := by
  obtain ⟨ts', a, hr, hlen, _, hsame⟩ := reload_of_diskOK o cfg d hd hcfg
  exact ⟨ts', a, hr, hlen, hsame⟩

/-- C08 in one statement -/
theorem reload_good (o cfg : Oracle V A) (d : Disk V A) (h : Inv o) (hd : DiskOK o d)
    (hcfg : cfg.maxTrials = o.maxTrials ∧ cfg.maxRetries = o.maxRetries ∧ cfg.maxConsec = o.maxConsec ∧ cfg.aborted = o.aborted) :
    ∃ r, reload cfg d = some r ∧ Inv r ∧
      (∀ i ∈ o.endOrder, r.trials[i]? = o.trials[i]? ∧ i ∉ r.retryQ) ∧
      (∀ (i : Nat) (t : Trial V), r.trials[i]? = some t → t.status = .running → i ∈ r.retryQ) ∧
      r.trials.length = o.trials.length := by
  obtain ⟨ts', a, hr, hlen, hsame⟩ := reload_eq_requeue o cfg d hd hcfg
  refine ⟨_, hr, inv_requeue o h ts' a hlen hsame, ?_, requeue_running_queued o h ts' a hlen hsame, hlen⟩
  intro i hi
  obtain ⟨h1, h2, _⟩ := requeue_committed_stable o h ts' a hsame i hi
  exact ⟨h1, h2⟩

def writeTrial (d : Disk V A) (o' : Oracle V A) (id : Nat) : Disk V A :=
  { d with tfile := fun j => if j = id then (o'.trials[id]?).map tfileOf else d.tfile j }

def writeOracle (d : Disk V A) (o' : Oracle V A) : Disk V A := { d with ofile := some (ofileOf o') }

theorem diskOK_writeOracle {o' : Oracle V A} {d : Disk V A} (h : FilesOK o' d) : DiskOK o' (writeOracle d o') :=
  ⟨⟨o'.alg, rfl⟩, h⟩

/-- covers a write for a trial ongoing in `o`, for an id `o` does not know yet (the window between the two writes of an
    operation), and of the record `o` holds -/
theorem diskOK_writeTrial {o : Oracle V A} {d : Disk V A} (hd : DiskOK o d) (o' : Oracle V A) (id : Nat)
    (h : ∀ t, o.trials[id]? = some t →
      ∃ t', o'.trials[id]? = some t' ∧ t'.vals = t.vals ∧ (id ∉ o.ongoing.map (·.2) → t' = t)) :
    DiskOK o (writeTrial d o' id) := by
  refine ⟨hd.ofile, fun i t ht => ?_⟩
  by_cases hi : i = id
  · subst hi
    obtain ⟨t', ht', hv, he⟩ := h t ht
    exact ⟨tfileOf t', by simp only [writeTrial, if_true, ht', Option.map_some], hv, fun hni => by rw [he hni]⟩
  · obtain ⟨f, hf, hv, he⟩ := hd.tfiles i t ht
    exact ⟨f, by simp only [writeTrial, hi, if_false, hf], hv, he⟩

theorem filesOK_touch {o o' : Oracle V A} {id : Nat} (ht : Touch o o' id) {d d' : Disk V A} (hf : FilesOK o d)
    (hd' : ∀ i, i ≠ id → d'.tfile i = d.tfile i)
    (hid : ∀ t, o'.trials[id]? = some t →
      ∃ f, d'.tfile id = some f ∧ f.vals = t.vals ∧ (id ∉ o'.ongoing.map (·.2) → f = tfileOf t)) :
    FilesOK o' d' := by
  intro i t hti
  by_cases hi : i = id
  · subst hi
    exact hid t hti
  · rw [ht.trials i hi] at hti
    obtain ⟨f, hf, hv, he⟩ := hf i t hti
    exact ⟨f, by rw [hd' i hi, hf], hv, fun hni => he (fun hm => hni ((ht.ongoing i hi).mpr hm))⟩

theorem filesOK_writeTrial {o o' : Oracle V A} {id : Nat} (ht : Touch o o' id) {d : Disk V A} (hf : FilesOK o d) :
    FilesOK o' (writeTrial d o' id) :=
  filesOK_touch ht hf (fun i hi => by simp only [writeTrial, hi, if_false])
    (fun t hti => ⟨tfileOf t, by simp only [writeTrial, if_true, hti, Option.map_some], rfl, fun _ => rfl⟩)

/-- the two-file protocol: the trial file, then the oracle file. The state `b` the disk is consistent with is a variable:
    it is memory `o` itself in a running process, and after a restart the state the crash left. `hinvis`: the new record of
    `id` is one `b` cannot tell from its own (where it is used, `id` is ongoing in `b` or beyond its trials). -/
theorem trial_then_oracle {b o o' : Oracle V A} {d : Disk V A} {id : Nat} (hb : DiskOK b d) (hf : FilesOK o d)
    (ht : Touch o o' id)
    (hinvis : ∀ t, b.trials[id]? = some t →
      ∃ t', o'.trials[id]? = some t' ∧ t'.vals = t.vals ∧ (id ∉ b.ongoing.map (·.2) → t' = t)) :
    DiskOK b (writeTrial d o' id) ∧ DiskOK o' (writeOracle (writeTrial d o' id) o') :=
  ⟨diskOK_writeTrial hb o' id hinvis, diskOK_writeOracle (filesOK_writeTrial ht hf)⟩

end Core
#print axioms Core.reload_good
