import Ktm.Core
/-! C10 prototype: Hyperband as an `Alg` over the core oracle. `size`/`epochs` are parameters here
    (the real model defines them with exact integer arithmetic). -/
namespace HB
open Core

structure HV where
  base : Nat                 -- the (abstract) sampled hyperparameter values
  epochs : Nat
  initialEpoch : Nat
  bracket : Nat
  round : Nat
  parent : Option Nat        -- tuner/trial_id
  deriving Repr, DecidableEq

structure Entry where
  id : Nat
  past : Option Nat
  deriving Repr, DecidableEq

structure Bracket where
  num : Nat
  rounds : List (List Entry)
  deriving Repr

structure Cfg where
  size : Nat → Nat → Nat
  epochs : Nat → Nat → Nat
  numBrackets : Nat
  iterations : Nat
  minimize : Bool

structure St where
  cfg : Cfg
  currentBracket : Nat
  currentIteration : Nat
  brackets : List Bracket

abbrev O := Oracle HV St

def completeBracket (cfg : Cfg) (b : Bracket) : Bool :=
  match b.rounds.getLast? with
  | some r => r.length == cfg.size b.num (b.rounds.length - 1)
  | none => true

def better (minimize : Bool) (a b : Int) : Bool := if minimize then a < b else b < a

/-- candidates for promotion into round `r` (r ≥ 1) of bracket `b`: COMPLETED trials of round r-1
    that are not already selected -/
def candOf (o : O) (cur : List Entry) (e : Entry) : Option (Nat × Int) :=
  if cur.any (fun c => c.past == some e.id) then none else
  match o.trials[e.id]? with
  | some t => if t.status = .completed then t.score.map (fun s => (e.id, s)) else none
  | none => none

def candidates (o : O) (prev cur : List Entry) : List (Nat × Int) := prev.filterMap (candOf o cur)

/-- first element of the stable sort by score in the objective's direction = first optimum -/
def bestOf (minimize : Bool) : List (Nat × Int) → Option (Nat × Int)
  | [] => none
  | x :: xs => match bestOf minimize xs with
    | none => some x
    | some y => if better minimize y.2 x.2 then some y else some x

/-- try rounds 1.. of one bracket; returns the round index and the chosen parent -/
def tryPromote (o : O) (cfg : Cfg) (b : Bracket) : Nat → List (List Entry) → Option (Nat × Nat)
  | _, [] => none
  | _, [_] => none
  | r, prev :: cur :: rest =>
    let cands := candidates o prev cur
    if cfg.size b.num r - cfg.size b.num (r + 1) < cands.length then
      match bestOf cfg.minimize cands with
      | some (pid, _) => some (r + 1, pid)
      | none => tryPromote o cfg b (r + 1) (cur :: rest)
    else tryPromote o cfg b (r + 1) (cur :: rest)

def addEntry (b : Bracket) (r : Nat) (e : Entry) : Bracket :=
  { b with rounds := b.rounds.modify r (fun l => l ++ [e]) }

inductive Act
  | random (bi : Nat)                     -- fill round 0 of bracket index bi
  | promote (bi r pid : Nat)
  | none

/-- scan the brackets in order (the `for bracket in self._brackets` loop) -/
def scan (o : O) (cfg : Cfg) : Nat → List Bracket → Act
  | _, [] => .none
  | i, b :: bs =>
    match b.rounds with
    | [] => scan o cfg (i + 1) bs
    | r0 :: _ =>
      if r0.length < cfg.size b.num 0 then .random i
      else match tryPromote o cfg b 0 b.rounds with
        | some (r, pid) => .promote i r pid
        | none => scan o cfg (i + 1) bs

def newBracket (num : Nat) : Bracket := { num := num, rounds := List.replicate (num + 1) [] }

/-- `_random_trial`: `choice = 0` means the sampler gave up, `k+1` a fresh configuration `k` -/
def randomIn (o : O) (choice : Nat) (s' : St) (bi num : Nat) : St × Pop HV :=
  match choice with
  | 0 => (s', if o.ongoing.isEmpty then .stop else .idle)
  | k + 1 =>
    ({ s' with brackets := s'.brackets.modify bi (fun b => addEntry b 0 ⟨o.trials.length, none⟩) },
     .run ⟨k, s'.cfg.epochs num 0, 0, num, 0, none⟩)

def nextBracket (s : St) : Nat × Nat :=
  if s.currentBracket = 0 then (s.cfg.numBrackets - 1, s.currentIteration + 1)
  else (s.currentBracket - 1, s.currentIteration)

def populate (o : O) (choice : Nat) : St × Pop HV :=
  let s := o.alg
  let brs := s.brackets.filter (fun b => !completeBracket s.cfg b)
  match scan o s.cfg 0 brs with
  | .random bi =>
    match brs[bi]? with
    | some b => randomIn o choice { s with brackets := brs } bi b.num
    | none => ({ s with brackets := brs }, .stop)
  | .promote bi r pid =>
    match brs[bi]?, o.trials[pid]? with
    | some b, some pt =>
      ({ s with brackets := brs.modify bi (fun b => addEntry b r ⟨o.trials.length, some pid⟩) },
       .run ⟨pt.vals.base, s.cfg.epochs b.num r, s.cfg.epochs b.num (r - 1), b.num, r, some pid⟩)
    | _, _ => ({ s with brackets := brs }, .stop)
  | .none =>
    if s.currentBracket = 0 ∧ s.currentIteration + 1 = s.cfg.iterations then
      ({ s with brackets := brs }, if o.ongoing.isEmpty then .stop else .idle)
    else
      let nb := nextBracket s
      randomIn o choice { s with brackets := brs ++ [newBracket nb.1], currentBracket := nb.1, currentIteration := nb.2 }
        brs.length nb.1

def alg : Alg HV St :=
  { populate := populate, onEnd := fun s _ => s, scoreOf := fun l => l.getLast?.join }

def init (cfg : Cfg) : O :=
  Core.init (V := HV) { cfg := cfg, currentBracket := cfg.numBrackets - 1, currentIteration := 0,
                        brackets := [newBracket (cfg.numBrackets - 1)] } none 0 3

-- smoke test: max_epochs 4, factor 2  (sizes [[3],[3,2],[4,2,1]], epochs ceil(4/2^(b-r)))
def cfg42 : Cfg :=
  { size := fun b r => match b, r with
      | 0, _ => 3 | 1, 0 => 3 | 1, _ => 2 | 2, 0 => 4 | 2, 1 => 2 | _, _ => 1
    epochs := fun b r => (4 + 2 ^ (b - r) - 1) / 2 ^ (b - r)
    numBrackets := 3, iterations := 1, minimize := true }

def demo : List (Option HV) :=
  let ops : List Op := [.create 0 1, .create 1 2, .create 2 3, .create 3 4,
    .update 0 (some 5), .endT 0 .completed, .update 1 (some 3), .endT 1 .completed,
    .update 2 (some 4), .endT 2 .completed, .create 0 9, .create 1 10, .create 2 11]
  let rec go (o : O) (ops : List Op) (acc : List (Option HV)) : List (Option HV) :=
    match ops with
    | [] => acc.reverse
    | op :: rest =>
      let r := Core.step alg o op
      let acc := match r.2 with | .trial _ v => some v :: acc | _ => none :: acc
      go r.1 rest acc
  go (init cfg42) ops []
#eval demo

end HB
