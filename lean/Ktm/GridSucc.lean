import Ktm.ListLemmas
/-! Conditional search spaces as parent-first lists of entries, the enumeration `enum` of all assignments of the
active entries in grid order, and the odometer `next` (C09: `next` is the successor function of `enum`; C05: an
enumerated assignment binds exactly the entries active under itself, each to a member of its value list).
The proofs read an enumerated assignment through `lookup`: `enum hs pre` binds names of `hs` only
(`lookup_of_mem_enum`), so the blocks of one entry are told apart by the value they bind to its name. -/
namespace GridSucc

structure GHP where
  name : Nat
  vals : List Nat                   -- value list, default first
  conds : List (Nat × List Nat)     -- (parent name, admissible parent values)

abbrev Env := List (Nat × Nat)

def condOk (env : Env) (c : Nat × List Nat) : Bool :=
  match env.lookup c.1 with
  | some v => c.2.contains v
  | none => false

def active (env : Env) (h : GHP) : Bool := h.conds.all (condOk env)

def enum : List GHP → Env → List Env
  | [], pre => [pre]
  | h :: hs, pre =>
    if active pre h then h.vals.flatMap (fun v => enum hs (pre ++ [(h.name, v)]))
    else enum hs pre

/-- all-defaults completion -/
def first : List GHP → Env → Env
  | [], pre => pre
  | h :: hs, pre =>
    if active pre h then
      match h.vals with
      | [] => pre            -- unreachable for well-formed entries
      | v :: _ => first hs (pre ++ [(h.name, v)])
    else first hs pre

def succVal : List Nat → Nat → Option Nat
  | [], _ => none
  | [_], _ => none
  | a :: b :: rest, v => if a = v then some b else succVal (b :: rest) v

/-- forward formulation of `_get_next_combination`: bump the last bumpable active entry,
    reset everything after it to defaults -/
def next : List GHP → Env → Env → Option Env
  | [], _, _ => none
  | h :: hs, pre, old =>
    if active pre h then
      match old.lookup h.name with
      | none => none
      | some v =>
        match next hs (pre ++ [(h.name, v)]) old with
        | some r => some r
        | none =>
          match succVal h.vals v with
          | some v' => some (first hs (pre ++ [(h.name, v')]))
          | none => none
    else next hs pre old

def succIn (l : List Env) (e : Env) : Option Env :=
  match l with
  | [] => none
  | [_] => none
  | a :: b :: rest => if a = e then some b else succIn (b :: rest) e

def names (hs : List GHP) : List Nat := hs.map (·.name)

def keys (e : Env) : List Nat := e.map (·.1)

def ParentsFirst : List Nat → List GHP → Prop
  | _, [] => True
  | seen, h :: hs => (∀ c ∈ h.conds, c.1 ∈ seen) ∧ ParentsFirst (seen ++ [h.name]) hs

theorem mem_enum_nil {pre e : Env} : e ∈ enum [] pre ↔ e = pre := List.mem_singleton

theorem mem_enum_cons {h : GHP} {hs : List GHP} {pre e : Env} :
    e ∈ enum (h :: hs) pre ↔
      if active pre h then ∃ v ∈ h.vals, e ∈ enum hs (pre ++ [(h.name, v)]) else e ∈ enum hs pre := by
  rw [enum]
  split
  · exact List.mem_flatMap
  · exact Iff.rfl

theorem lookup_of_mem_enum {hs : List GHP} {pre e : Env} (he : e ∈ enum hs pre) {n : Nat}
    (hn : n ∉ names hs) : e.lookup n = pre.lookup n := by
  induction hs generalizing pre with
  | nil => rw [mem_enum_nil.mp he]
  | cons h hs ih =>
    have hne : n ≠ h.name := fun e => hn (e ▸ List.mem_cons_self)
    have hn' : n ∉ names hs := fun hm => hn (List.mem_cons_of_mem _ hm)
    rw [mem_enum_cons] at he
    split at he
    · obtain ⟨v, _, hv⟩ := he
      rw [ih hv hn', List.lookup_append, List.lookup_cons, beq_false_of_ne hne]
      exact Option.or_none
    · exact ih he hn'

theorem lookup_of_mem_block {hs : List GHP} {pre e : Env} {n v : Nat} (hp : n ∉ keys pre) (hn : n ∉ names hs)
    (he : e ∈ enum hs (pre ++ [(n, v)])) : e.lookup n = some v := by
  rw [lookup_of_mem_enum he hn, List.lookup_append_of_not_mem_keys hp]
  exact List.lookup_cons_self

theorem nodup_cons_names {pre : Env} {h : GHP} {hs : List GHP} (hnd : (keys pre ++ names (h :: hs)).Nodup) :
    h.name ∉ keys pre ∧ h.name ∉ names hs ∧ (keys pre ++ names hs).Nodup ∧
      ∀ v, (keys (pre ++ [(h.name, v)]) ++ names hs).Nodup := by
  have h1 : (keys pre ++ h.name :: names hs).Nodup := hnd
  obtain ⟨hnot, h0⟩ := List.nodup_cons.mp (List.perm_middle.nodup_iff.mp h1)
  refine ⟨fun hm => hnot (List.mem_append_left _ hm), fun hm => hnot (List.mem_append_right _ hm), h0, fun v => ?_⟩
  show (List.map (·.1) (pre ++ [(h.name, v)]) ++ names hs).Nodup
  rw [List.map_append, List.append_assoc]
  exact h1

theorem enum_head (hs : List GHP) (hv : ∀ h ∈ hs, h.vals ≠ []) (pre : Env) :
    (enum hs pre).head? = some (first hs pre) := by
  induction hs generalizing pre with
  | nil => rfl
  | cons h hs ih =>
    have hv' : ∀ h ∈ hs, h.vals ≠ [] := fun x hx => hv x (List.mem_cons_of_mem _ hx)
    simp only [enum, first]
    split
    · cases hvals : h.vals with
      | nil => exact absurd hvals (hv h List.mem_cons_self)
      | cons v vs =>
        rw [List.flatMap_cons, List.head?_append, ih hv']
        rfl
    · exact ih hv' pre

theorem enum_ne_nil (hs : List GHP) (hv : ∀ h ∈ hs, h.vals ≠ []) (pre : Env) : enum hs pre ≠ [] := by
  intro h
  have := enum_head hs hv pre
  rw [h] at this
  cases this

/-- C09: no combination is enumerated twice -/
theorem enum_nodup (hs : List GHP) (pre : Env)
    (hv : ∀ g ∈ hs, g.vals.Nodup) (hnd : (keys pre ++ names hs).Nodup) : (enum hs pre).Nodup := by
  induction hs generalizing pre with
  | nil => exact List.pairwise_singleton _ pre
  | cons h hs ih =>
    obtain ⟨hp, hn, hnd0, hnd1⟩ := nodup_cons_names hnd
    have hv' : ∀ g ∈ hs, g.vals.Nodup := fun g hg => hv g (List.mem_cons_of_mem _ hg)
    rw [enum]
    split
    · -- every block is duplicate-free, and an assignment in the blocks of `a` and of `b` binds `h.name` to both
      refine List.pairwise_flatMap.mpr ⟨fun v _ => ih _ hv' (hnd1 v), (hv h List.mem_cons_self).imp ?_⟩
      intro a b hab x hx y hy hxy
      subst hxy
      exact hab (Option.some.inj ((lookup_of_mem_block hp hn hx).symm.trans (lookup_of_mem_block hp hn hy)))
    · exact ih _ hv' hnd0

theorem active_congr {e e' : Env} {h : GHP} (hc : ∀ c ∈ h.conds, e.lookup c.1 = e'.lookup c.1) :
    active e h = active e' h := by
  unfold active
  rw [Bool.eq_iff_iff, List.all_eq_true, List.all_eq_true]
  exact forall₂_congr (fun c hc' => by unfold condOk; rw [hc c hc'])

/-- C05: an enumerated assignment binds an entry iff the entry is active under the assignment, and
    binds it to a member of its value list. `seen` = names bound in `pre` or skipped so far. -/
theorem enum_exact (hs : List GHP) (pre e : Env) (seen : List Nat)
    (hsub : ∀ k ∈ keys pre, k ∈ seen)
    (hnd : (seen ++ names hs).Nodup) (hpf : ParentsFirst seen hs) (he : e ∈ enum hs pre) :
    ∀ g ∈ hs, (active e g = true → ∃ v ∈ g.vals, e.lookup g.name = some v) ∧
              (active e g = false → e.lookup g.name = none) := by
  induction hs generalizing pre seen with
  | nil => intro g hg; cases hg
  | cons h hs ih =>
    obtain ⟨hpc, hpf'⟩ := hpf
    have hnd' : ((seen ++ [h.name]) ++ names hs).Nodup := by
      rw [List.append_assoc]; exact hnd
    have hdisj : ∀ k ∈ seen, k ∉ names (h :: hs) := fun k hk hm => (List.nodup_append.mp hnd).2.2 k hk k hm rfl
    have hnew : h.name ∉ names hs := fun hm =>
      (List.nodup_append.mp hnd').2.2 h.name (List.mem_append_right _ (List.mem_singleton.mpr rfl)) h.name hm rfl
    have hpre : pre.lookup h.name = none :=
      List.lookup_eq_none_iff_not_mem_keys.mpr (fun hm => hdisj _ (hsub _ hm) List.mem_cons_self)
    -- the conditions of `h` mention seen names only, and those the enumeration leaves as they are in `pre`
    have hact : active e h = active pre h :=
      active_congr (fun c hc => lookup_of_mem_enum he (hdisj _ (hpc c hc)))
    rw [mem_enum_cons] at he
    intro g hg
    split at he
    · next ha =>
      obtain ⟨v, hv, hve⟩ := he
      rcases List.mem_cons.mp hg with rfl | hg
      · have hlk : e.lookup g.name = some v :=
          lookup_of_mem_block (List.lookup_eq_none_iff_not_mem_keys.mp hpre) hnew hve
        exact ⟨fun _ => ⟨v, hv, hlk⟩, fun hf => by rw [hact, ha] at hf; cases hf⟩
      · refine ih _ _ (fun k hk => ?_) hnd' hpf' hve g hg
        rw [keys, List.map_append] at hk
        exact (List.mem_append.mp hk).elim (fun h => List.mem_append_left _ (hsub k h)) (List.mem_append_right _)
    · next ha =>
      rcases List.mem_cons.mp hg with rfl | hg
      · exact ⟨fun ht => absurd (hact ▸ ht) ha, fun _ => by rw [lookup_of_mem_enum he hnew, hpre]⟩
      · exact ih _ _ (fun k hk => List.mem_append_left _ (hsub k hk)) hnd' hpf' he g hg

theorem enum_exact_nil (hs : List GHP) (e : Env) (hnd : (names hs).Nodup) (hpf : ParentsFirst [] hs)
    (he : e ∈ enum hs []) :
    ∀ g ∈ hs, (active e g = true → ∃ v ∈ g.vals, e.lookup g.name = some v) ∧
              (active e g = false → e.lookup g.name = none) :=
  enum_exact hs [] e [] (fun _ h => h) hnd hpf he

theorem isSucc_succIn : List.IsSucc succIn := ⟨fun _ => rfl, fun _ _ => rfl, fun _ _ _ _ => rfl⟩

theorem isSucc_succVal : List.IsSucc succVal := ⟨fun _ => rfl, fun _ _ => rfl, fun _ _ _ _ => rfl⟩

theorem succIn_mid {A B : List Env} (C : List Env) {e : Env} (hA : e ∉ A) (hB : e ∈ B) :
    succIn (A ++ B ++ C) e = (succIn B e).or C.head? := by
  obtain ⟨B₁, B₂, rfl, h₁⟩ := List.eq_append_cons_of_mem hB
  have hnot : e ∉ A ++ B₁ := fun hm => (List.mem_append.mp hm).elim hA h₁
  rw [isSucc_succIn.split B₁ B₂ e h₁, ← List.append_assoc A, List.append_assoc _ _ C, List.cons_append,
    isSucc_succIn.split _ _ e hnot, List.head?_append]

theorem next_is_succ (hs : List GHP) (pre e : Env)
    (hv : ∀ g ∈ hs, g.vals ≠ [])
    (hnd : (pre.map (·.1) ++ names hs).Nodup)
    (he : e ∈ enum hs pre) :
    next hs pre e = succIn (enum hs pre) e := by
  induction hs generalizing pre with
  | nil =>
    cases mem_enum_nil.mp he
    rfl
  | cons h hs ih =>
    have hv' : ∀ g ∈ hs, g.vals ≠ [] := fun x hx => hv x (List.mem_cons_of_mem _ hx)
    obtain ⟨hp, hn, hnd0, hnd1⟩ := nodup_cons_names (pre := pre) hnd
    rw [mem_enum_cons] at he
    rw [enum, next]
    split at he
    · next hact =>
      obtain ⟨v, hvin, hve⟩ := he
      -- `e` lies in the block of `v` and in no earlier block, since the members of a block bind the block's value
      obtain ⟨vs₁, vs₂, hvs, hv₁⟩ := List.eq_append_cons_of_mem hvin
      have hnot : e ∉ vs₁.flatMap (fun w => enum hs (pre ++ [(h.name, w)])) := by
        intro hm
        obtain ⟨w, hw, hew⟩ := List.mem_flatMap.mp hm
        have := (lookup_of_mem_block hp hn hew).symm.trans (lookup_of_mem_block hp hn hve)
        exact hv₁ (Option.some.inj this ▸ hw)
      -- so its successor is the one in its block, or else the head of the next block: the all-defaults completion
      -- of the next value
      rw [if_pos hact, if_pos hact, lookup_of_mem_block hp hn hve]
      dsimp only
      rw [ih _ hv' (hnd1 v) hve, hvs, isSucc_succVal.split _ _ _ hv₁, List.flatMap_append, List.flatMap_cons,
        ← List.append_assoc, succIn_mid _ hnot hve]
      cases succIn (enum hs (pre ++ [(h.name, v)])) e with
      | some r => rfl
      | none =>
        cases vs₂ with
        | nil => rfl
        | cons v' vs' =>
          rw [List.flatMap_cons, List.head?_append, enum_head hs hv']
          rfl
    · next hact =>
      rw [if_neg hact, if_neg hact]
      exact ih _ hv' hnd0 he

end GridSucc
#print axioms GridSucc.next_is_succ
#print axioms GridSucc.enum_exact
#print axioms GridSucc.enum_nodup
