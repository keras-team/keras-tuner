/-! C17: model of the original `synchronized` wrapper (per-oracle lock created lazily by a
    Python-level factory, owner table, no `try/finally`) and the two counter-example schedules. -/
namespace SyncOrig

inductive Pc
  | idle | decided (need : Bool) | inFactory (l : Nat) | gotLock (l : Nat) | acquired (l : Nat)
  | body | after | cleared | dead            -- dead: the call raised; nothing is cleaned up
  | crashed                                  -- `release unlocked lock`
  deriving DecidableEq, Repr

structure G where
  slot : Option Nat        -- LOCKS[oracle] (none = key missing)
  held : List Nat          -- locks currently locked
  owner : Option Nat       -- THREADS[oracle]
  nextLock : Nat
  pc : Nat → Pc

def setPc (g : G) (t : Nat) (p : Pc) : G := { g with pc := fun u => if u = t then p else g.pc u }

/-- one step of thread `t`; `raise` = the body raises; `none` = blocked on `acquire` -/
def step (g : G) (t : Nat) (raise : Bool) : Option G :=
  match g.pc t with
  | .idle => some (setPc g t (.decided (decide (g.owner ≠ some t))))
  | .decided false => some (setPc g t .body)
  | .decided true =>
    match g.slot with
    | some l => some (setPc g t (.gotLock l))
    | none => some (setPc { g with nextLock := g.nextLock + 1 } t (.inFactory g.nextLock))   -- `lambda: Lock()` runs
  | .inFactory l => some (setPc { g with slot := some l } t (.gotLock l))                     -- `__missing__` stores it
  | .gotLock l => if g.held.contains l then none else some (setPc { g with held := l :: g.held } t (.acquired l))
  | .acquired _ => some (setPc { g with owner := some t } t .body)
  | .body => some (setPc g t (if raise then .dead else .after))
  | .after => some (setPc { g with owner := none } t .cleared)
  | .cleared =>
    match g.slot with                                                                        -- `LOCKS[oracle].release()` looks the lock up again
    | some l => if g.held.contains l then some (setPc { g with held := g.held.erase l } t .idle)
                else some (setPc g t .crashed)
    | none => some (setPc g t .crashed)
  | .dead => some g
  | .crashed => some g

def init : G := { slot := none, held := [], owner := none, nextLock := 0, pc := fun _ => .idle }

def run (g : G) : List (Nat × Bool) → G
  | [] => g
  | (t, r) :: rest => match step g t r with
    | some g' => run g' rest
    | none => run g rest

/-- F2: first concurrent use of a fresh oracle — both threads are inside the wrapped function -/
def raceSchedule : List (Nat × Bool) :=
  [(0,false),(0,false),            -- t0: reads owner, misses the lock table, is inside the factory
   (1,false),(1,false),(1,false),(1,false),(1,false),   -- t1: same, stores its lock, acquires it, sets owner, enters the body
   (0,false),(0,false),(0,false)]  -- t0: stores its own lock over t1's, acquires it, sets owner, enters the body

theorem race_breaks_mutex :
    (run init raceSchedule).pc 0 = .body ∧ (run init raceSchedule).pc 1 = .body := by decide

/-- after the race of `raceSchedule` the releases hit the wrong lock: one thread ends in `release unlocked lock` -/
theorem race_then_release_error :
    (run init (raceSchedule ++ [(1,false),(1,false),(1,false),(0,false),(0,false),(0,false)])).pc 0 = .crashed := by decide

/-- F1: a call that raises leaves the lock held and the owner set; a second thread blocks forever -/
def raiseSchedule : List (Nat × Bool) :=
  [(0,false),(0,false),(0,false),(0,false),(0,false),(0,true),   -- t0 enters and raises
   (1,false),(1,false),(1,false),(1,false),(1,false)]            -- t1 decides, finds the lock, … stays blocked

theorem raise_wedges :
    (run init raiseSchedule).pc 0 = .dead ∧ (run init raiseSchedule).held = [0] ∧
    (run init raiseSchedule).owner = some 0 ∧ (run init raiseSchedule).pc 1 = .gotLock 0 := by decide

end SyncOrig
#print axioms SyncOrig.race_breaks_mutex
#print axioms SyncOrig.raise_wedges
