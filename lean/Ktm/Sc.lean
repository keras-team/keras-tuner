/-! Extended rationals: the non-NaN doubles as the model sees them (−inf, an exact rational, +inf). -/

inductive Sc | ninf | fin (q : Rat) | pinf
  deriving DecidableEq, Repr

namespace Sc

def le : Sc → Sc → Bool
  | .ninf, _ => true
  | _, .pinf => true
  | .fin a, .fin b => decide (a ≤ b)
  | _, _ => false

def neg : Sc → Sc
  | .ninf => .pinf | .pinf => .ninf | .fin q => .fin (-q)

/-- IEEE addition without NaN operands: `inf + (-inf)` is NaN (`none`) -/
def add : Sc → Sc → Option Sc
  | .fin a, .fin b => some (.fin (a + b))
  | .pinf, .ninf => none
  | .ninf, .pinf => none
  | .pinf, _ => some .pinf
  | _, .pinf => some .pinf
  | .ninf, _ => some .ninf
  | _, .ninf => some .ninf

/-- division by a positive count -/
def divNat : Sc → Nat → Sc
  | .fin a, n => .fin (a / (n : Rat))
  | .pinf, _ => .pinf
  | .ninf, _ => .ninf

theorem le_total (a b : Sc) : le a b = true ∨ le b a = true := by
  cases a <;> cases b <;> simp [le, Rat.le_total]

theorem le_refl (a : Sc) : le a a = true := by
  cases a <;> simp [le]

theorem le_trans (a b c : Sc) (h1 : le a b = true) (h2 : le b c = true) : le a c = true := by
  cases a <;> cases b <;> cases c <;> simp_all [le]
  case fin.fin.fin => exact Rat.le_trans h1 h2

theorem le_antisymm (a b : Sc) (h1 : le a b = true) (h2 : le b a = true) : a = b := by
  cases a <;> cases b <;> simp_all [le]
  case fin.fin => exact Rat.le_antisymm h1 h2

theorem neg_le_neg (a b : Sc) : le (neg b) (neg a) = le a b := by
  cases a <;> cases b <;> simp [le, neg, Rat.neg_le_neg_iff]

theorem neg_neg (a : Sc) : neg (neg a) = a := by
  cases a <;> simp [neg, Rat.neg_neg]

end Sc
