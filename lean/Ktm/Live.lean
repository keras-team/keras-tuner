import Ktm.CoreCount
import Ktm.GridTop
import Ktm.ListLemmas
/-! C11 — liveness proper: workers that always finish the trials they are given.

A *worker system* (`Sys`) is an oracle plus the set of workers that were told STOPPED. A worker's step (`sstep`) is a
function of the oracle state: a worker that holds a trial ends it (with an arbitrary outcome), a worker that holds nothing
asks for one (`wop` is that request); a worker that was told STOPPED does nothing any more, and the failure-streak abort
halts everything (`acts`). Any interleaving is a list of `Act`s (which worker moves, with which outcome / external choice).

A step of a schedule is of one of four kinds.
Productive (a trial handed out or ended): at most `2 · N · (max_retries + 1)` along every interleaving, fair or not, for
any bound `N` on the number of trials (`productive_bounded_of`: every trial ended was handed out before, `srun_issued`, and
`Core.issuedBy_le` bounds the trials handed out).
Answered STOPPED: at most once per worker (`stopped_nodup_step`).
Answered IDLE: then another worker that has not been told STOPPED holds a trial, and its next step ends that trial or is
the failure-streak abort (`no_livelock`, for algorithms that say IDLE only while a trial runs,
`Props.C11.IdleOnlyWhileBusy`); so under a scheduler that lets every worker move again and again, the IDLE answers between
two productive steps are bounded by its fairness bound.
Answered `bad`: not counted (a worker that holds a trial never gets one: `Core.endT_held_ne_bad`).
The combination is not stated as a theorem. -/
namespace Live
open Core
variable {V A : Type}

structure Sys (V A : Type) where
  o : Oracle V A
  stopped : List Nat
  halted : Bool

structure Act where
  w : Nat
  oc : Outcome
  c : Nat

def wop (o : Oracle V A) (a : Act) : Op :=
  match holds o a.w with
  | some id => .endT id a.oc
  | none => .create a.w a.c

def acts (s : Sys V A) (a : Act) : Bool := !s.halted && !s.stopped.contains a.w

def sstep (alg : Alg V A) (s : Sys V A) (a : Act) : Sys V A :=
  if acts s a then
    let r := step alg s.o (wop s.o a)
    match r.2 with
    | .abort => { s with o := r.1, halted := true }
    | .stopped => { s with o := r.1, stopped := s.stopped ++ [a.w] }
    | _ => { s with o := r.1 }
  else s

def srun (alg : Alg V A) : Sys V A → List Act → Sys V A
  | s, [] => s
  | s, a :: as => srun alg (sstep alg s a) as

/-- `.ok` means "a trial ended" because `wop` never sends `update` -/
def prodOut0 : Out V → Nat
  | .trial _ _ => 1
  | .ok => 1
  | _ => 0

def productive (alg : Alg V A) (s : Sys V A) (a : Act) : Nat :=
  if acts s a then prodOut0 (step alg s.o (wop s.o a)).2 else 0

def productiveCount (alg : Alg V A) : Sys V A → List Act → Nat
  | _, [] => 0
  | s, a :: as => productive alg s a + productiveCount alg (sstep alg s a) as

def SInv (s : Sys V A) : Prop := ∀ w ∈ s.stopped, holds s.o w = none

theorem acts_of_halted (s : Sys V A) (a : Act) (h : s.halted = true) : acts s a = false := by
  simp only [acts, h, Bool.not_true, Bool.false_and]

theorem not_stopped_of_acts (s : Sys V A) (a : Act) (h : acts s a = true) : a.w ∉ s.stopped := by
  simp only [acts, Bool.and_eq_true, Bool.not_eq_true', List.contains_eq_mem, decide_eq_false_iff_not] at h
  exact h.2

theorem sstep_of_not_acts (alg : Alg V A) (s : Sys V A) (a : Act) (h : acts s a = false) : sstep alg s a = s := by
  simp only [sstep, h, Bool.false_eq_true, if_false]

theorem sstep_o (alg : Alg V A) (s : Sys V A) (a : Act) (h : acts s a = true) :
    (sstep alg s a).o = (step alg s.o (wop s.o a)).1 := by
  simp only [sstep, h, if_true]
  split <;> rfl

theorem sstep_halted (alg : Alg V A) (s : Sys V A) (a : Act) (h : acts s a = true)
    (hab : (step alg s.o (wop s.o a)).2 = .abort) : (sstep alg s a).halted = true := by
  simp only [sstep, h, if_true, hab]

theorem sstep_stopped (alg : Alg V A) (s : Sys V A) (a : Act) :
    (sstep alg s a).stopped = s.stopped ∨
    ((sstep alg s a).stopped = s.stopped ++ [a.w] ∧ acts s a = true ∧ (step alg s.o (wop s.o a)).2 = .stopped) := by
  unfold sstep
  split
  · next hact =>
    dsimp only
    split
    · exact .inl rfl
    · next hout => exact .inr ⟨rfl, hact, hout⟩
    · exact .inl rfl
  · exact .inl rfl

theorem srun_halted (alg : Alg V A) (as : List Act) (s : Sys V A) (h : s.halted = true) : srun alg s as = s := by
  induction as with
  | nil => rfl
  | cons a as ih => rw [srun, sstep_of_not_acts alg s a (acts_of_halted s a h), ih]

theorem productiveCount_halted (alg : Alg V A) (as : List Act) (s : Sys V A) (h : s.halted = true) :
    productiveCount alg s as = 0 := by
  induction as with
  | nil => rfl
  | cons a as ih =>
    rw [productiveCount, sstep_of_not_acts alg s a (acts_of_halted s a h), ih, productive, acts_of_halted s a h]
    rfl

/-- the result is named (`hr : … = r`) as in `wstep_cases`, which passes its equation on once `wop` is unfolded -/
theorem create_free_ongoing (alg : Alg V A) (o : Oracle V A) (w c : Nat) (hh : holds o w = none) {r : Oracle V A × Out V}
    (hr : create alg o w c = r) :
    (∃ id v, r.2 = .trial id v ∧ r.1.ongoing = o.ongoing ++ [(w, id)]) ∨ (r.1.ongoing = o.ongoing ∧ prodOut0 r.2 = 0) := by
  subst hr
  apply create_cases alg o w c (motive := fun r =>
    (∃ id v, r.2 = .trial id v ∧ r.1.ongoing = o.ongoing ++ [(w, id)]) ∨ (r.1.ongoing = o.ongoing ∧ prodOut0 r.2 = 0))
  case held => exact fun _ _ hh' _ => nomatch hh.symm.trans hh'
  case heldBad => exact fun _ hh' _ => nomatch hh.symm.trans hh'
  case retry => intros; exact .inl ⟨_, _, rfl, rfl⟩
  case run => intros; exact .inl ⟨_, _, rfl, rfl⟩
  case retryBad => intros; exact .inr ⟨rfl, rfl⟩
  case idle => intros; exact .inr ⟨rfl, rfl⟩
  case budget => intros; exact .inr ⟨rfl, rfl⟩
  case stop => intros; exact .inr ⟨rfl, rfl⟩

theorem endT_ongoing (alg : Alg V A) (o : Oracle V A) (id : Nat) (oc : Outcome) {r : Oracle V A × Out V}
    (hr : endT alg o id oc = r) :
    (r.1.ongoing = o.ongoing ∧ (r.2 = .bad ∨ r.2 = .abort)) ∨
    (r.1.ongoing = o.ongoing.filter (fun p => p.2 != id) ∧ r.2 = .ok) := by
  subst hr
  apply endT_cases alg o id oc (motive := fun r =>
    (r.1.ongoing = o.ongoing ∧ (r.2 = .bad ∨ r.2 = .abort)) ∨
    (r.1.ongoing = o.ongoing.filter (fun p => p.2 != id) ∧ r.2 = .ok))
  case bad => exact fun _ => .inl ⟨rfl, .inl rfl⟩
  case abort => intros; exact .inl ⟨rfl, .inr rfl⟩
  case settled => intros; exact .inr ⟨rfl, rfl⟩

theorem wstep_cases (alg : Alg V A) (o : Oracle V A) (a : Act) {r : Oracle V A × Out V} (hr : step alg o (wop o a) = r) :
    (r.1.ongoing = o.ongoing ∧ prodOut0 r.2 = 0 ∧ (r.2 = .stopped → holds o a.w = none)) ∨
    (∃ id, holds o a.w = some id ∧ r.1.ongoing = o.ongoing.filter (fun p => p.2 != id) ∧ r.2 = .ok) ∨
    (∃ id v, holds o a.w = none ∧ r.1.ongoing = o.ongoing ++ [(a.w, id)] ∧ r.2 = .trial id v) := by
  unfold wop at hr
  cases hh : holds o a.w with
  | some id =>
    rw [hh] at hr
    rcases endT_ongoing alg o id a.oc hr with ⟨ho, hb | hb⟩ | ⟨ho, hok⟩
    · exact .inl ⟨ho, by rw [hb]; rfl, by rw [hb]; nofun⟩
    · exact .inl ⟨ho, by rw [hb]; rfl, by rw [hb]; nofun⟩
    · exact .inr (.inl ⟨id, rfl, ho, hok⟩)
  | none =>
    rw [hh] at hr
    rcases create_free_ongoing alg o a.w a.c hh hr with ⟨id, v, hout, ho⟩ | ⟨ho, hp⟩
    · exact .inr (.inr ⟨id, v, rfl, ho, hout⟩)
    · exact .inl ⟨ho, hp, fun _ => rfl⟩

theorem issuedStep_eq_zero (alg : Alg V A) (o : Oracle V A) (op : Op) (h : prodOut0 (step alg o op).2 = 0) :
    issuedStep alg o op = 0 := by
  unfold issuedStep
  split
  · next hout =>
    rw [hout] at h
    cases h
  · rfl

/-- every productive answer moves `ongoing`: a trial handed out (an issuance) enters it, a trial ended leaves it -/
theorem wstep_account (alg : Alg V A) (o : Oracle V A) (a : Act) (h : Inv o) :
    (step alg o (wop o a)).1.ongoing.length + prodOut0 (step alg o (wop o a)).2
      = o.ongoing.length + 2 * issuedStep alg o (wop o a) := by
  rcases wstep_cases alg o a rfl with ⟨ho, hout, _⟩ | ⟨id, hh, ho, hout⟩ | ⟨id, v, hh, ho, hout⟩
  · rw [ho, hout, issuedStep_eq_zero alg o _ hout]
  · have hw : issuedStep alg o (wop o a) = 0 := by rw [wop, hh]; rfl
    rw [ho, hout, hw]
    exact List.length_filter_ne_add_one h.ongoing_ids (mem_ongoing_of_holds hh)
  · have hw : issuedStep alg o (wop o a) = 1 := by
      rw [wop, hh] at hout ⊢
      exact issuedStep_create_new alg o a.w a.c hh hout
    rw [ho, hout, hw, List.length_append]
    rfl

theorem add_accounts {n₀ n₁ n₂ p q i j : Nat} (h₁ : n₁ + p = n₀ + 2 * i) (h₂ : n₂ + q = n₁ + 2 * j) :
    n₂ + (p + q) = n₀ + 2 * (i + j) := by
  rw [Nat.add_comm p q, ← Nat.add_assoc, h₂, Nat.add_right_comm, h₁, Nat.add_assoc, ← Nat.mul_add]

/-- every trial ended along the way was handed out before: the trials held at the end and the productive steps together
    are the trials held at the start and twice the issuances -/
theorem srun_issued (alg : Alg V A) (as : List Act) (s : Sys V A) : ∃ ops, (srun alg s as).o = run alg s.o ops ∧
    (Inv s.o →
      (srun alg s as).o.ongoing.length + productiveCount alg s as = s.o.ongoing.length + 2 * issuedBy alg s.o ops) := by
  induction as generalizing s with
  | nil => exact ⟨[], rfl, fun _ => rfl⟩
  | cons a as ih =>
    rw [srun, productiveCount, productive]
    cases hact : acts s a with
    | false =>
      rw [sstep_of_not_acts alg s a hact, if_neg Bool.false_ne_true, Nat.zero_add]
      exact ih s
    | true =>
      rw [if_pos rfl]
      rcases abort_or_ne (step alg s.o (wop s.o a)).2 with hab | hab
      · have hh := sstep_halted alg s a hact hab
        refine ⟨[wop s.o a], ?_, fun h => ?_⟩
        · rw [srun_halted alg as _ hh, sstep_o alg s a hact, run_cons_abort alg s.o _ [] hab]
        · rw [productiveCount_halted alg as _ hh, srun_halted alg as _ hh, sstep_o alg s a hact,
            issuedBy_cons_abort alg s.o _ [] hab]
          exact wstep_account alg s.o a h
      · obtain ⟨ops, hops, hc⟩ := ih (sstep alg s a)
        rw [sstep_o alg s a hact] at hops hc
        refine ⟨wop s.o a :: ops, hops.trans (run_cons alg s.o _ ops hab).symm, fun h => ?_⟩
        rw [issuedBy_cons_of_ne alg s.o _ ops hab]
        exact add_accounts (wstep_account alg s.o a h) (hc (inv_step alg s.o _ h hab))

theorem srun_run (alg : Alg V A) (as : List Act) : ∀ (s : Sys V A), ∃ ops, (srun alg s as).o = run alg s.o ops :=
  fun s =>
    let ⟨ops, hops, _⟩ := srun_issued alg as s
    ⟨ops, hops⟩

/-- only IDLE answers can repeat; `N` is any bound on the trials the oracle ever holds: a trial budget, a finite grid, a finite schedule -/
theorem productive_bounded_of (alg : Alg V A) (o : Oracle V A) (N : Nat) (h : Inv o) (k : KInv o) (ho : o.ongoing = [])
    (hB : ∀ ops, (run alg o ops).trials.length ≤ N) (as : List Act) :
    productiveCount alg ⟨o, [], false⟩ as ≤ 2 * (N * (o.maxRetries + 1)) := by
  obtain ⟨ops, _, hc⟩ := srun_issued alg as ⟨o, [], false⟩
  have hc := hc h
  rw [ho] at hc
  calc productiveCount alg ⟨o, [], false⟩ as
      ≤ _ + productiveCount alg ⟨o, [], false⟩ as := Nat.le_add_left _ _
    _ = 2 * issuedBy alg o ops := hc.trans (Nat.zero_add _)
    _ ≤ 2 * (N * (o.maxRetries + 1)) := Nat.mul_le_mul_left 2 (issuedBy_le alg o h k ops (hB ops))

theorem productive_bounded (alg : Alg V A) (a0 : A) (N maxRetries maxConsec : Nat) (as : List Act) :
    productiveCount alg ⟨init (V := V) a0 (some N) maxRetries maxConsec, [], false⟩ as ≤ 2 * (N * (maxRetries + 1)) :=
  productive_bounded_of alg _ N (inv_init a0 _ _ _) (kinv_init a0 _ _ _) rfl
    (fun ops => (run_budget alg _ ops rfl (Nat.zero_le N)).2) as

/-- grid search without a trial limit: the finite grid is the budget -/
theorem grid_productive_bounded (space : List GridSucc.GHP) (hs : Grid.SpaceOK space) (as : List Act) :
    productiveCount Grid.alg ⟨Grid.init space, [], false⟩ as ≤
      2 * ((GridSucc.enum space []).length * ((Grid.init space).maxRetries + 1)) :=
  productive_bounded_of Grid.alg _ _ (inv_init _ none 0 1000) (kinv_init _ none 0 1000) rfl (Grid.grid_trials_le space hs) as

theorem holder_step_ends (alg : Alg V A) (o : Oracle V A) (h : Inv o) (a : Act) (id : Nat)
    (hh : holds o a.w = some id) :
    (step alg o (wop o a)).2 = .ok ∨ (step alg o (wop o a)).2 = .abort := by
  simp only [wop, hh, step]
  rcases endT_ongoing alg o id a.oc rfl with ⟨_, hb | hb⟩ | ⟨_, hok⟩
  · exact absurd hb (endT_held_ne_bad alg o h hh a.oc)
  · exact .inr hb
  · exact .inl hok

/-- no livelock: whenever a worker that has not been told STOPPED moves, either its step is not answered IDLE,
    or — it is told to wait — another worker that has not been told STOPPED holds a trial, and that worker's next
    step, with whatever outcome, ends it (answer `ok`, or the failure-streak abort): waiting is never for nothing.
    `hc` is the contract `Props.C11.IdleOnlyWhileBusy alg`. -/
theorem no_livelock (alg : Alg V A) (hc : ∀ (o : Oracle V A) (c : Nat) (a : A), alg.populate o c = (a, .idle) → o.ongoing ≠ [])
    (s : Sys V A) (h : Inv s.o) (hs : SInv s) (a : Act) :
    (step alg s.o (wop s.o a)).2 ≠ .idle ∨
    ∃ w', w' ≠ a.w ∧ w' ∉ s.stopped ∧ (holds s.o w').isSome ∧
      ∀ (oc : Outcome) (c : Nat), (step alg s.o (wop s.o ⟨w', oc, c⟩)).2 = .ok ∨ (step alg s.o (wop s.o ⟨w', oc, c⟩)).2 = .abort := by
  by_cases hidle : (step alg s.o (wop s.o a)).2 = .idle
  · right
    -- the waiting worker holds nothing, so its step was a request, and the algorithm said "wait"
    have hhold : holds s.o a.w = none := by
      cases hh : holds s.o a.w with
      | none => rfl
      | some id =>
        rcases holder_step_ends alg s.o h a id hh with h1 | h1
        · cases h1.symm.trans hidle
        · cases h1.symm.trans hidle
    simp only [wop, hhold, step] at hidle
    obtain ⟨a', hp⟩ := create_eq_idle alg s.o a.w a.c hidle
    obtain ⟨p, hp⟩ := List.exists_mem_of_ne_nil _ (hc _ _ _ hp)
    have hlook : holds s.o p.1 = some p.2 := List.lookup_eq_some_of_mem_of_nodup_keys h.ongoing_tuners hp
    refine ⟨p.1, ?_, ?_, congrArg Option.isSome hlook, fun oc' c' => holder_step_ends alg s.o h ⟨p.1, oc', c'⟩ p.2 hlook⟩
    · intro heq
      rw [heq, hhold] at hlook
      cases hlook
    · intro hmem
      rw [hs p.1 hmem] at hlook
      cases hlook
  · exact Or.inl hidle

/-- `SInv` is kept: a worker is told STOPPED only while holding nothing, and no step of another worker gives it a trial -/
theorem sinv_step (alg : Alg V A) (s : Sys V A) (a : Act) (hs : SInv s) : SInv (sstep alg s a) := by
  cases hact : acts s a with
  | false => rw [sstep_of_not_acts alg s a hact]; exact hs
  | true =>
    intro w hw
    have hwn := not_stopped_of_acts s a hact
    have hw' : w ∈ s.stopped ∨ (w = a.w ∧ (step alg s.o (wop s.o a)).2 = .stopped) := by
      rcases sstep_stopped alg s a with he | ⟨he, _, hout⟩
      · exact .inl (he ▸ hw)
      · rw [he, List.mem_append, List.mem_singleton] at hw
        exact hw.imp_right fun e => ⟨e, hout⟩
    rw [sstep_o alg s a hact, holds]
    rcases wstep_cases alg s.o a rfl with ⟨ho, _, hst⟩ | ⟨id, _, ho, hout⟩ | ⟨id, v, _, ho, hout⟩
    · rw [ho]
      rcases hw' with hw' | ⟨rfl, hout⟩
      · exact hs w hw'
      · exact hst hout
    · rcases hw' with hw' | ⟨_, hout'⟩
      · rw [ho]
        exact List.filter_sublist.lookup_eq_none (hs w hw')
      · rw [hout] at hout'; cases hout'
    · rcases hw' with hw' | ⟨_, hout'⟩
      · rw [ho, List.lookup_append, show List.lookup w s.o.ongoing = none from hs w hw', List.lookup_singleton, if_neg]
        · rfl
        · intro heq; exact hwn (beq_iff_eq.mp heq ▸ hw')
      · rw [hout] at hout'; cases hout'

theorem stopped_nodup_step (alg : Alg V A) (s : Sys V A) (a : Act) (hn : s.stopped.Nodup) : (sstep alg s a).stopped.Nodup := by
  rcases sstep_stopped alg s a with he | ⟨he, hact, _⟩
  · rw [he]; exact hn
  · rw [he]; exact List.nodup_append_singleton.mpr ⟨hn, not_stopped_of_acts s a hact⟩

/-- two workers, budget 2, every run INVALID with one retry allowed: round-robin for 8 rounds; all four
    runs happen (8 productive steps = the bound 2·2·(1+1)), then both workers are told STOPPED -/
def demo : Bool :=
  let alg : Alg Nat Unit := { populate := fun _ c => ((), .run c), onEnd := fun a _ => a, scoreOf := fun l => l.getLast?.join }
  let s0 : Sys Nat Unit := ⟨init () (some 2) 1 9, [], false⟩
  let sched : List Act := (List.range 8).flatMap (fun _ => [⟨0, .invalid, 5⟩, ⟨1, .invalid, 6⟩])
  let s := srun alg s0 sched
  productiveCount alg s0 sched == 8 && s.stopped == [0, 1] && !s.halted
example : demo = true := by decide

end Live
#print axioms Live.productive_bounded
#print axioms Live.no_livelock
#print axioms Live.sinv_step
