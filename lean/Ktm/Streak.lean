import Ktm.Core
/-! C03: the scanning loop `_check_consecutive_failures` finds a run of `k` FAILED iff one exists. -/
namespace Core

/-- `k` consecutive FAILED somewhere in the list, stated without the scanning loop -/
def HasRun (k : Nat) (l : List Status) : Prop :=
  ∃ pre suf, l = pre ++ List.replicate k Status.failed ++ suf

theorem streakFrom_nil_false (k c : Nat) : streakFrom k c [] = false := rfl

theorem streakFrom_failed (k c : Nat) (rest : List Status) :
    streakFrom k c (.failed :: rest) = if c + 1 = k then true else streakFrom k (c + 1) rest := by
  simp only [streakFrom, if_true]

theorem streakFrom_other (k c : Nat) {s : Status} (hs : s ≠ .failed) (rest : List Status) :
    streakFrom k c (s :: rest) = if 0 = k then true else streakFrom k 0 rest := by
  simp only [streakFrom, hs, if_false]

/-- the counter `c` stands for `c` FAILED seen immediately before `l`: a hit of the loop is a run in the padded list -/
theorem run_of_streakFrom (k : Nat) (l : List Status) (c : Nat) (h : streakFrom k c l = true) :
    HasRun k (List.replicate c .failed ++ l) := by
  induction l generalizing c with
  | nil => cases h
  | cons s rest ih =>
    by_cases hs : s = .failed
    · subst hs
      rw [streakFrom_failed] at h
      have e : List.replicate c Status.failed ++ .failed :: rest = List.replicate (c + 1) .failed ++ rest := by
        rw [List.replicate_succ', List.append_assoc]; rfl
      rw [e]
      split at h
      · next hk => exact ⟨[], rest, by rw [hk]; rfl⟩
      · exact ih _ h
    · rw [streakFrom_other k c hs] at h
      split at h
      · next hk => exact ⟨[], _, by rw [← hk]; rfl⟩
      · obtain ⟨pre, suf, e⟩ := ih 0 h
        rw [List.replicate_zero, List.nil_append] at e
        refine ⟨List.replicate c .failed ++ s :: pre, suf, ?_⟩
        simp only [e, List.append_assoc, List.cons_append]

theorem streakFrom_of_run (k : Nat) (pre suf : List Status) (c : Nat) (hc : c < k) :
    streakFrom k c (pre ++ List.replicate k .failed ++ suf) = true := by
  induction pre generalizing c with
  | nil =>
    -- `n` FAILED with `k ≤ c + n` take the counter from `c` to `k`
    suffices ∀ n c, c < k → k ≤ c + n → streakFrom k c (List.replicate n .failed ++ suf) = true from
      this k c hc (Nat.le_add_left k c)
    intro n
    induction n with
    | zero => intro c h1 h2; exact absurd h1 (Nat.not_lt.mpr h2)
    | succ n ih =>
      intro c h1 h2
      rw [List.replicate_succ, List.cons_append, streakFrom_failed]
      split
      · rfl
      · next hne => exact ih _ (Nat.lt_of_le_of_ne h1 hne) (by rw [Nat.add_right_comm]; exact h2)
  | cons p ps ih =>
    rw [List.cons_append, List.cons_append]
    by_cases hp : p = .failed
    · subst hp
      rw [streakFrom_failed]
      split
      · rfl
      · next hne => exact ih _ (Nat.lt_of_le_of_ne hc hne)
    · rw [streakFrom_other k c hp]
      split
      · rfl
      · next hne => exact ih _ (Nat.pos_of_ne_zero (Ne.symm hne))

theorem hasStreak_iff (k : Nat) (hk : 0 < k) (l : List Status) : hasStreak k l = true ↔ HasRun k l :=
  ⟨fun h => by simpa using run_of_streakFrom k l 0 h, fun ⟨pre, suf, e⟩ => e ▸ streakFrom_of_run k pre suf 0 hk⟩

end Core
#print axioms Core.hasStreak_iff
