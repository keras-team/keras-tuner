import Ktm.Space
import Ktm.ListLemmas
/-! C13: what `_retrieve` and `get` answer (`retrieve_spec`, `get_spec`); what a build leaves alone (`Ext`) and the
    invariant it keeps (`Good`), both read off `run` by its functional induction principle. -/
namespace Space

/-- parents first: every condition of an entry names an entry registered earlier -/
def PF (hps : List HP) : Prop :=
  ∀ (pre : List HP) (h : HP) (post : List HP), hps = pre ++ h :: post → ∀ c ∈ h.conds, ∃ p ∈ pre, p.name = c.name

def SI (s : S) : Prop := ∀ c ∈ s.conds, ∃ p ∈ s.hps, p.name = c.name

structure Good (s : S) : Prop where
  pf : PF s.hps
  si : SI s

theorem exists_iff {s : S} {n : String} {cs : List Cond} :
    s.exists_ n cs = true ↔ ∃ p ∈ s.hps, p.name = n ∧ p.conds = cs := by
  simp only [S.exists_, List.any_eq_true, Bool.and_eq_true, beq_iff_eq]

theorem exists_mono {s t : S} (h : s.hps <+: t.hps) {n : String} {cs : List Cond}
    (he : s.exists_ n cs = true) : t.exists_ n cs = true := by
  obtain ⟨p, hp, hpp⟩ := exists_iff.mp he
  exact exists_iff.mpr ⟨p, h.subset hp, hpp⟩

theorem register_ok {s s' : S} {h : HP} {v : Option Val} : s.register h = .ok (s', v) →
    s'.conds = s.conds ∧ s'.nameScopes = s.nameScopes ∧ s'.hps = s.hps ++ [h] := by
  unfold S.register
  simp only
  -- the three tests only choose among results that all append `h` and leave the stacks alone
  generalize s.conds.any (·.name == h.name) = refused
  generalize S.isActive _ h = active
  generalize lookup _ _ = known
  intro hr
  cases refused with
  | true => cases hr
  | false =>
    cases active with
    | false => cases hr; exact ⟨rfl, rfl, rfl⟩
    | true =>
      cases known with
      | none => cases hr; exact ⟨rfl, rfl, rfl⟩
      | some w => cases hr; exact ⟨rfl, rfl, rfl⟩

theorem retrieve_ok {s s' : S} {n : String} {d : Val} {v : Option Val} : s.retrieve n d = .ok (s', v) →
    s'.conds = s.conds ∧ s'.nameScopes = s.nameScopes ∧
    s'.hps = if s.exists_ (s.qualify n) s.conds then s.hps else s.hps ++ [⟨s.qualify n, s.conds, d⟩] := by
  unfold S.retrieve
  simp only
  cases s.exists_ (s.qualify n) s.conds with
  | false => exact register_ok
  | true =>
    generalize S.isActive _ _ = active
    generalize lookup _ _ = known
    intro hr
    cases active with
    | false => cases hr; exact ⟨rfl, rfl, rfl⟩
    | true =>
      cases known with
      | none => cases hr
      | some w => cases hr; exact ⟨rfl, rfl, rfl⟩

theorem retrieve_exists {s s' : S} {n : String} {d : Val} {v : Option Val} (h : s.retrieve n d = .ok (s', v)) :
    s'.exists_ (s.qualify n) s.conds = true := by
  have hh := (retrieve_ok h).2.2
  split at hh
  · next hex => exact exists_mono (hh ▸ List.prefix_rfl) hex
  · exact exists_iff.mpr ⟨_, hh ▸ List.mem_concat_self, rfl, rfl⟩

theorem get_spec (s : S) (name : String) :
    (∀ v, lookup s.values (s.qualify name) = some v → s.get name = .ok v) ∧
    (lookup s.values (s.qualify name) = none → s.hps.any (·.name == s.qualify name) = true → s.get name = .error (.inactive (s.qualify name))) ∧
    (lookup s.values (s.qualify name) = none → s.hps.any (·.name == s.qualify name) = false → s.get name = .error (.unknown (s.qualify name))) := by
  unfold S.get
  dsimp only
  refine ⟨fun v h => ?_, fun h1 h2 => ?_, fun h1 h2 => ?_⟩
  · rw [h]
  · rw [h1, if_pos h2]
  · rw [h1, if_neg (ne_true_of_eq_false h2)]

/-- `_retrieve`, case by case: known and active, known and inactive, unknown (then registered) -/
theorem retrieve_spec (s : S) (name : String) (dflt : Val) :
    let h : HP := { name := s.qualify name, conds := s.conds, dflt := dflt }
    (s.exists_ h.name h.conds = true → s.isActive h = true → ∀ v, lookup s.values h.name = some v →
        s.retrieve name dflt = .ok (s, some v)) ∧
    (s.exists_ h.name h.conds = true → s.isActive h = false → s.retrieve name dflt = .ok (s, none)) ∧
    (s.exists_ h.name h.conds = false → s.conds.any (·.name == h.name) = false →
        ∃ s', s.retrieve name dflt = .ok (s', if s.isActive h then some ((lookup s.values h.name).getD dflt) else none) ∧
          s'.hps = s.hps ++ [h]) := by
  unfold S.retrieve
  dsimp only
  refine ⟨fun he ha v hv => ?_, fun he ha => ?_, fun he hc => ?_⟩
  · rw [if_pos he, if_pos ha, hv]
  · rw [if_pos he, if_neg (ne_true_of_eq_false ha)]
  · rw [if_neg (ne_true_of_eq_false he)]
    unfold S.register
    rw [if_neg (ne_true_of_eq_false hc)]
    -- registering does not change the values, so the entry is as active as before
    show ∃ s', (if s.isActive _ = true then _ else _) = _ ∧ _
    cases s.isActive { name := s.qualify name, conds := s.conds, dflt := dflt } with
    | false => exact ⟨_, rfl, rfl⟩
    | true =>
      cases lookup s.values (s.qualify name) with
      | none => exact ⟨_, rfl, rfl⟩
      | some v => exact ⟨_, rfl, rfl⟩

/-- `s0` with an equation, so that `fun_induction run` passes its own `s0` with `rfl` -/
theorem enter_proj (s : S) (c : Cond) (a b : List (List Cond)) (s0 : S)
    (h : s0 = if condActive s.values c = true then { s with conds := s.conds ++ [c], activeScopes := a }
              else { s with conds := s.conds ++ [c], inactiveScopes := b }) :
    s0.hps = s.hps ∧ s0.nameScopes = s.nameScopes ∧ s0.conds = s.conds ++ [c] := by
  subst h
  split
  · exact ⟨rfl, rfl, rfl⟩
  · exact ⟨rfl, rfl, rfl⟩

structure Ext (s s' : S) : Prop where
  conds : s'.conds = s.conds
  nameScopes : s'.nameScopes = s.nameScopes
  hps : s.hps <+: s'.hps

theorem Ext.refl (s : S) : Ext s s := ⟨rfl, rfl, List.prefix_rfl⟩

theorem Ext.trans {s t u : S} (h1 : Ext s t) (h2 : Ext t u) : Ext s u :=
  ⟨h2.conds.trans h1.conds, h2.nameScopes.trans h1.nameScopes, h1.hps.trans h2.hps⟩

theorem retrieve_ext {s s' : S} {n : String} {d : Val} {v : Option Val} (h : s.retrieve n d = .ok (s', v)) :
    Ext s s' := by
  obtain ⟨hc, hn, hh⟩ := retrieve_ok h
  refine ⟨hc, hn, ?_⟩
  rw [hh]
  split
  · exact List.prefix_rfl
  · exact List.prefix_append _ _

/-- the body of a conditional scope is entered or skipped -/
theorem body_cases {P : S → Prop} {s0 : S} {r : S × List Ev} (enter : Bool) (h0 : P s0) (hr : P r.1) :
    P (if enter = true then r else (s0, [])).1 := by
  split
  · exact hr
  · exact h0

theorem run_ext (fuel : Nat) (s : S) (prog : List Stmt) (last : Option Val) : Ext s (run fuel s prog last).1 := by
  fun_induction run fuel s prog last with
  | case1 | case2 | case4 | case7 => -- nothing runs: out of fuel; end of the program; decl, refused; condScope, parent not defined
    exact Ext.refl _
  | case3 s last fuel n d rest s' v hr r ih => exact (retrieve_ext hr).trans ih -- decl, accepted
  | case5 s last fuel n rest r ih => exact ih -- get
  | case6 s last fuel n body rest r1 s1 r2 ih1 ih2 => -- nameScope
    exact Ext.trans (t := s1) ⟨ih1.conds, rfl, ih1.hps⟩ ih2
  | case8 s last fuel parent vals isLazy body rest pn hex c stack s0 enter r1 s1 r2 ih1 ih2 => -- condScope
    obtain ⟨h0h, h0n, _⟩ := enter_proj s c _ _ s0 rfl
    have h1 : Ext s0 r1.1 := body_cases enter (Ext.refl s0) ih1
    exact Ext.trans (t := s1) ⟨rfl, h1.nameScopes.trans h0n, h0h ▸ h1.hps⟩ ih2

theorem body_ext (fuel : Nat) (s0 : S) (body : List Stmt) (enter : Bool) :
    Ext s0 (if enter = true then run fuel s0 body none else (s0, [])).1 :=
  body_cases enter (Ext.refl s0) (run_ext fuel s0 body none)

theorem si_of_ext {s t : S} (h : SI s) (hc : t.conds = s.conds) (hh : s.hps <+: t.hps) : SI t := by
  intro c hct
  obtain ⟨p, hp, hpn⟩ := h c (hc ▸ hct)
  exact ⟨p, hh.subset hp, hpn⟩

theorem retrieve_good {s s' : S} {n : String} {d : Val} {v : Option Val} (g : Good s)
    (h : s.retrieve n d = .ok (s', v)) : Good s' := by
  obtain ⟨hc, _, hh⟩ := retrieve_ok h
  refine ⟨?_, si_of_ext g.si hc (retrieve_ext h).hps⟩
  rw [hh]
  split
  · exact g.pf
  · -- the new entry carries the current stack, whose conditions name registered entries
    exact List.forall_split_append_singleton g.pf g.si

theorem run_keeps_good (fuel : Nat) (s : S) (prog : List Stmt) (last : Option Val) (g : Good s) :
    Good (run fuel s prog last).1 := by
  fun_induction run fuel s prog last with
  | case1 | case2 | case4 | case7 => -- nothing runs: out of fuel; end of the program; decl, refused; condScope, parent not defined
    exact g
  | case3 s last fuel n d rest s' v hr r ih => exact ih (retrieve_good g hr) -- decl, accepted
  | case5 s last fuel n rest r ih => exact ih g -- get
  | case6 s last fuel n body rest r1 s1 r2 ih1 ih2 => -- nameScope: `Good` does not read the name scopes
    have g1 := ih1 ⟨g.pf, g.si⟩
    exact ih2 ⟨g1.pf, g1.si⟩
  | case8 s last fuel parent vals isLazy body rest pn hex c stack s0 enter r1 s1 r2 ih1 ih2 => -- condScope
    obtain ⟨h0h, _, h0c⟩ := enter_proj s c _ _ s0 rfl
    -- the pushed condition names the parent, which exists
    have g0 : Good s0 := by
      refine ⟨h0h ▸ g.pf, fun c' hc' => ?_⟩
      rw [h0h]
      rcases List.mem_append.mp (h0c ▸ hc') with hc' | hc'
      · exact g.si c' hc'
      · rw [List.mem_singleton.mp hc']
        have hex : s.exists_ pn s.conds = true := by
          simpa only [Bool.not_eq_true', Bool.not_eq_false] using hex
        obtain ⟨p, hp, hpn, _⟩ := exists_iff.mp hex
        exact ⟨p, hp, hpn⟩
    have g1 : Good r1.1 := body_cases enter g0 (ih1 g0)
    -- back on the old stack, over a space that has only grown
    exact ih2 ⟨g1.pf, si_of_ext g.si rfl (h0h ▸ (body_ext fuel s0 body enter).hps)⟩

/-- C13: running any build program keeps "parents before children", restores both scope stacks and
    only appends to the space -/
theorem run_good (fuel : Nat) : ∀ (s : S) (prog : List Stmt) (last : Option Val), Good s →
    Good (run fuel s prog last).1 ∧ (run fuel s prog last).1.conds = s.conds ∧
    (run fuel s prog last).1.nameScopes = s.nameScopes ∧ ∃ ext, (run fuel s prog last).1.hps = s.hps ++ ext :=
  fun s prog last g =>
    have h := run_ext fuel s prog last
    ⟨run_keeps_good fuel s prog last g, h.conds, h.nameScopes, Exists.imp (fun _ => Eq.symm) h.hps⟩

theorem good_empty : Good empty :=
  ⟨fun _ _ _ he => (nomatch (List.nil_eq_append_iff.mp he).2), fun _ hc => nomatch hc⟩

end Space
#print axioms Space.retrieve_spec
#print axioms Space.retrieve_good
#print axioms Space.run_good
