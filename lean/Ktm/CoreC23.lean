import Ktm.CoreInv
/-! What C01–C03 say about a single call: the answers of `create`, read off its branch equations and `create_eq_trial`, and
the decisions of `endDecision`, read off its three equations. -/
namespace Core
variable {V A : Type}

/-- C02 -/
theorem stopped_when_exhausted (alg : Alg V A) (o : Oracle V A) (tuner c : Nat)
    (hh : holds o tuner = none) (hq : o.retryQ = []) (hb : budgetReached o = true) :
    (create alg o tuner c).2 = .stopped ∧ (create alg o tuner c).1.trials = o.trials := by
  rw [create_budget alg o tuner c hh hq hb]; exact ⟨rfl, rfl⟩

/-- C02/C03 -/
theorem retry_first (alg : Alg V A) (o : Oracle V A) (h : Inv o) (tuner c id : Nat)
    (hh : holds o tuner = none) (hq : o.retryQ.getLast? = some id) :
    ∃ t, o.trials[id]? = some t ∧ (create alg o tuner c).2 = .trial id t.vals ∧
      (create alg o tuner c).1.trials.length = o.trials.length ∧
      (create alg o tuner c).1.retryQ = o.retryQ.dropLast := by
  obtain ⟨t, ht⟩ := h.retry_ok id (List.mem_of_getLast? hq)
  rw [create_retry alg o tuner c hh hq ht]
  exact ⟨t, ht, rfl, length_setTrial .., rfl⟩

/-- C01. From the id to the branch of `create` that issued it: `create_fresh`. -/
theorem create_fresh_id (alg : Alg V A) (o : Oracle V A) (tuner c id : Nat) (v : V)
    (hh : holds o tuner = none) (hq : o.retryQ = []) (hout : (create alg o tuner c).2 = .trial id v) :
    id = o.trials.length ∧ (create alg o tuner c).1.trials.length = o.trials.length + 1 := by
  rcases create_eq_trial alg o tuner c hout with ⟨hh', _⟩ | ⟨_, hq', _⟩ | ⟨_, _, hb, hid, a, hp⟩
  · exact nomatch hh.symm.trans hh'
  · exact nomatch hq ▸ hq'
  · rw [create_ask alg o tuner c hh hq hb, hp]
    exact ⟨hid, List.length_append⟩

/-- C01 -/
theorem handed_out_held_running (alg : Alg V A) (o : Oracle V A) (h : Inv o) (tuner c id : Nat) (v : V)
    (hout : (create alg o tuner c).2 = .trial id v) :
    holds (create alg o tuner c).1 tuner = some id ∧
      ∃ t, (create alg o tuner c).1.trials[id]? = some t ∧ t.status = .running ∧ t.vals = v := by
  have happ : ∀ i, holds o tuner = none → (o.ongoing ++ [(tuner, i)]).lookup tuner = some i := fun i hh => by
    rw [List.lookup_append_of_not_mem_keys (List.lookup_eq_none_iff_not_mem_keys.mp hh)]; exact List.lookup_cons_self
  rcases create_eq_trial alg o tuner c hout with ⟨hh, tr, ht, hv⟩ | ⟨hh, hq, tr, ht, hv⟩ | ⟨hh, hq, hb, hid, a, hp⟩
  · obtain ⟨t, ht', hs⟩ := h.ongoing_run _ (List.mem_of_lookup_eq_some hh)
    obtain rfl := Option.some.inj (ht.symm.trans ht')
    rw [create_held alg o tuner c hh ht]
    exact ⟨hh, tr, ht, hs, hv⟩
  · rw [create_retry alg o tuner c hh hq ht]
    exact ⟨happ _ hh, _, getElem?_setTrial_of_some _ ht, rfl, hv⟩
  · rw [create_ask alg o tuner c hh hq hb, hp, hid]
    exact ⟨happ _ hh, _, List.getElem?_concat_length, rfl, rfl⟩

theorem invalid_requeued (alg : Alg V A) (m : Nat) (t : Trial V) (oc : Outcome)
    (hinv : oc = .invalid ∨ (oc = .completed ∧ alg.scoreOf t.reports = none)) (hruns : t.runs + 1 < m + 1) :
    (endDecision alg m t oc).retry = true ∧ (endDecision alg m t oc).st = .invalid := by
  rw [endDecision_invalid alg m t hinv, if_pos hruns]
  exact ⟨rfl, rfl⟩

theorem failed_at_limit (alg : Alg V A) (m : Nat) (t : Trial V) (oc : Outcome)
    (hinv : oc = .invalid ∨ (oc = .completed ∧ alg.scoreOf t.reports = none)) (hruns : ¬ t.runs + 1 < m + 1) :
    (endDecision alg m t oc).retry = false ∧ (endDecision alg m t oc).st = .failed := by
  rw [endDecision_invalid alg m t hinv, if_neg hruns]
  exact ⟨rfl, rfl⟩

theorem failed_final (alg : Alg V A) (m : Nat) (t : Trial V) :
    (endDecision alg m t .failed).retry = false ∧ (endDecision alg m t .failed).st = .failed := by
  rw [endDecision_failed]
  exact ⟨rfl, rfl⟩

/-- C03. What was reported is this run's reports only: `retry_resets_reports`. -/
theorem completed_with_score (alg : Alg V A) (m : Nat) (t : Trial V) (s : Int)
    (hs : alg.scoreOf t.reports = some s) :
    (endDecision alg m t .completed).retry = false ∧ (endDecision alg m t .completed).st = .completed ∧
    (endDecision alg m t .completed).sc = some s := by
  rw [endDecision_completed alg m t hs]
  exact ⟨rfl, rfl, rfl⟩

/-- C03: a retry starts with empty reports (the model follows the repair of F12) -/
theorem retry_resets_reports (alg : Alg V A) (o : Oracle V A) (id : Nat) (oc : Outcome) (t : Trial V)
    (ht : o.trials[id]? = some t) (hon : isOngoing o id = true)
    (hr : (endDecision alg o.maxRetries t oc).retry = true) :
    ∃ t', (endT alg o id oc).1.trials[id]? = some t' ∧ t'.reports = [] ∧ t'.vals = t.vals := by
  rw [endT_decided alg o id oc ht hon, decided_retry alg o id _ hr]
  exact ⟨_, getElem?_setTrial_of_some _ ht, if_pos hr, rfl⟩

end Core
