import Lean.Data.Json
import Ktm.CoreInv
import Ktm.PersistOps
import Ktm.Metrics
import Ktm.Ranking
import Ktm.Search
import Ktm.Growth
/-! Line-protocol driver for the `oracle` suite (C01–C03, C04-ranking, C07, C08): the implementation's
    own `populate_space` answer is the external choice, the model (`Core.create / update / endT`,
    `Core.reload`, `Core.writeTrial / writeOracle`, `Metrics.*`, `Ranking.bestTrials`) does all the
    bookkeeping, scoring, persistence and ranking. -/
open Lean Core

namespace Driver

abbrev V := String                       -- canonical text of the values dict
abbrev A := Option (Pop V)               -- the populate answer for the next create

def alg : Alg V A :=
  { populate := fun o _ => (none, o.alg.getD .stop)
    onEnd := fun a _ => a
    scoreOf := fun _ => none }           -- replaced per call: scores come from `Metrics.bestValue`

/-- what the driver keeps beside the core oracle: the real (rational) observations and scores -/
structure Side where
  obs : List (Nat × List Metrics.Obs)     -- per trial id: objective observations of the current run(s)
  score : List (Nat × Metrics.FV)         -- per trial id: score set by the last COMPLETED end

structure St where
  o : Oracle V A
  minimize : Bool
  side : Side
  disk : Disk V A
  fileSide : List (Nat × (List Metrics.Obs × Option Metrics.FV))   -- what the trial files hold beside the core part
  budget : Option Nat                     -- number of further file writes that reach the disk (crash injection)
  tuners : List String                    -- tuner names, index = model tuner id
  width : Nat                             -- zero padding of ids
  tuneNew : Bool := true                  -- `tune_new_entries`
  gs : Growth.SSt String := ⟨[], 0, []⟩   -- `_tried_so_far` (hash = canonical text of the hashed values), Growth.recordS
  idHash : List (Nat × String) := []      -- `_id_to_hash`
  fileGs : Option (Growth.SSt String × List (Nat × String)) := none   -- what the oracle file holds of the two

def pad (w n : Nat) : String :=
  let s := toString n
  String.ofList (List.replicate (w - s.length) '0') ++ s

def tunerId (st : St) (name : String) : St × Nat :=
  match st.tuners.idxOf? name with
  | some i => (st, i)
  | none => ({ st with tuners := st.tuners ++ [name] }, st.tuners.length)

def statusStr : Status → String
  | .running => "RUNNING" | .invalid => "INVALID" | .completed => "COMPLETED" | .failed => "FAILED"

def ratStr (q : Rat) : String := s!"{q.num}/{q.den}"

def scStr : Sc → String
  | .ninf => "-inf" | .pinf => "inf" | .fin q => ratStr q

def fvStr : Metrics.FV → String
  | .nan => "nan" | .val s => scStr s

/-- a float on the wire: exact ratio `[p, q]`, or "inf" / "-inf" / "nan" -/
def fvOfJson (j : Json) : Metrics.FV :=
  match j with
  | .arr #[.num n, .num d] => .val (.fin (Rat.divInt n.mantissa d.mantissa))
  | .str "inf" => .val .pinf
  | .str "-inf" => .val .ninf
  | _ => .nan

def assocGet {β} (l : List (Nat × β)) (id : Nat) : Option β := (l.find? (·.1 == id)).map (·.2)
def assocSet {β} (l : List (Nat × β)) (id : Nat) (b : β) : List (Nat × β) := (l.filter (·.1 != id)) ++ [(id, b)]

def getObs (st : St) (id : Nat) : List Metrics.Obs := (assocGet st.side.obs id).getD []
def setObs (st : St) (id : Nat) (l : List Metrics.Obs) : St :=
  { st with side := { st.side with obs := assocSet st.side.obs id l } }
def getScore (st : St) (id : Nat) : Option Metrics.FV := assocGet st.side.score id

def stateStr (st : St) : String :=
  let o := st.o
  let sts := String.intercalate "," ((List.range o.trials.length).map (fun i =>
    match o.trials[i]? with
    | some t => s!"{pad st.width i}:{statusStr t.status}:{match t.status, getScore st i with | .completed, some v => fvStr v | _, _ => "-"}:{t.runs}"
    | none => "?"))
  let ong := String.intercalate "," ((o.ongoing.map (fun p => s!"{st.tuners.getD p.1 "?"}={pad st.width p.2}")).toArray.qsort (· < ·)).toList
  let rq := String.intercalate "," (o.retryQ.map (pad st.width))
  let eo := String.intercalate "," (o.endOrder.map (pad st.width))
  let tn := String.intercalate "," ((o.tunerIds.map (fun i => st.tuners.getD i "?")).toArray.qsort (· < ·)).toList
  s!"trials[{sts}] ongoing[{ong}] retry[{rq}] end[{eo}] tuners[{tn}]"

/-- a file write reaches the disk only while the crash budget lasts -/
def spend (st : St) : St × Bool :=
  match st.budget with
  | none => (st, true)
  | some 0 => (st, false)
  | some (k + 1) => ({ st with budget := some k }, true)

def doWriteTrial (st : St) (id : Nat) : St :=
  let (st, ok) := spend st
  if ok then
    { st with disk := writeTrial st.disk st.o id,
              fileSide := assocSet st.fileSide id (getObs st id, getScore st id) }
  else st

def doWriteOracle (st : St) : St :=
  let (st, ok) := spend st
  if ok then { st with disk := writeOracle st.disk st.o, fileGs := some (st.gs, st.idHash) } else st

/-- the writes of an operation as `Core.writesOf` lists them, each subject to the crash budget -/
def applyWrites (st : St) (ws : List W) : St :=
  ws.foldl (fun st w => match w with | .trial id => doWriteTrial st id | .oracle => doWriteOracle st) st

def rankOf (st : St) (n : Nat) : List Nat :=
  -- `get_best_trials`: scores as exact rationals, ranked through `Ranking.bestTrials`
  let ts : List Ranking.T := (List.range st.o.trials.length).map (fun i =>
    match st.o.trials[i]?, getScore st i with
    | some t, some (.val q) => ⟨i, t.status == .completed, q⟩
    | some t, _ => ⟨i, t.status == .completed, .fin 0⟩
    | none, _ => ⟨i, false, .fin 0⟩)
  (Ranking.bestTrials (!st.minimize) ts n).map (·.id)

/-- C19: the algorithm of the `search` op answers with the implementation's populate_space answers, in order -/
def popAlg : Alg V (List (Pop V)) :=
  { populate := fun o _ => match o.alg with | p :: r => (r, p) | [] => ([], .stop)
    onEnd := fun a _ => a
    scoreOf := fun l => l.getLast?.join }

def attemptOf (j : Json) : Search.Attempt :=
  match j with
  | .arr #[.str "ret", v] => .ret ((v.getInt?).toOption)
  | .arr #[.str "ret"] => .ret none
  | .arr #[.str "raise"] => .raise
  | .arr #[.str "failed"] => .failedTrial
  | .arr #[.str "fatal"] => .fatal
  | _ => .interrupt

def popOf (p : Json) : Pop V :=
  match (p.getObjValAs? String "status").toOption with
  | some "RUNNING" => .run ((p.getObjValAs? String "values").toOption.getD "")
  | some "IDLE" => .idle
  | _ => .stop

def ocStr : Outcome → String | .completed => "COMPLETED" | .invalid => "INVALID" | .failed => "FAILED"

def evStr : Search.Ev → String
  | .start id => s!"start {id}" | .ended id oc => s!"end {id} {ocStr oc}" | .stoppedEv => "stopped"
  | .fatalEv => "fatal" | .interruptEv => "interrupt" | .abortEv => "abort" | .outOfFuel => "fuel"

def handle (st : Option St) (j : Json) : Option St × String :=
    match j.getObjValAs? String "op", st with
    | .ok "init", _ =>
      let mt := (j.getObjValAs? Nat "max_trials").toOption
      let mr := (j.getObjValAs? Nat "max_retries").toOption.getD 0
      let mc := (j.getObjValAs? Nat "max_consec").toOption.getD 3
      let mn := (j.getObjValAs? Bool "minimize").toOption.getD true
      let w := (j.getObjValAs? Nat "width").toOption.getD 1
      let tn := (j.getObjValAs? Bool "tune_new").toOption.getD true
      (some { o := Core.init (V := V) none mt mr mc, minimize := mn, side := ⟨[], []⟩,
              disk := ⟨fun _ => none, none⟩, fileSide := [], budget := none, tuners := [], width := w, tuneNew := tn }, "ok")
    | .ok "create", some st =>
      let name := (j.getObjValAs? String "tuner").toOption.getD "?"
      let (st, tid) := tunerId st name
      let pop : Pop V :=
        match (j.getObjVal? "pop").toOption with
        | some p =>
          match (p.getObjValAs? String "status").toOption with
          | some "RUNNING" => .run ((p.getObjValAs? String "values").toOption.getD "")
          | some "IDLE" => .idle
          | _ => .stop
        | none => .stop
      let o0 := { st.o with alg := some pop }
      let ws := writesOf alg o0 (.create tid 0)
      let r := create alg o0 tid 0
      -- `_record_values` of a new trial: the hash of its values joins the tried set (as `Growth.populateS` does)
      let hk := ((j.getObjVal? "pop").toOption.bind (fun p => (p.getObjValAs? String "hkey").toOption))
      let st := match r.2, hk with
        | .trial id _, some hk =>
          if id == st.o.trials.length then
            { st with gs := { st.gs with tried := st.gs.tried ++ [hk] }, idHash := assocSet st.idHash id hk }
          else st
        | _, _ => st
      -- file writes of `create_trial`: new trial ⇒ trial file then oracle file; retry ⇒ oracle file only
      let st := applyWrites { st with o := r.1 } ws
      let out := match r.2 with
        | .trial id v => s!"RUNNING {pad st.width id} {v}"
        | .idle => "IDLE"
        | .stopped => "STOPPED"
        | _ => "BAD"
      (some st, out ++ " | " ++ stateStr st)
    | .ok "update", some st =>
      let id := (j.getObjValAs? Nat "id").toOption.getD 0
      let step := (j.getObjValAs? Int "step").toOption.getD 0
      let v := fvOfJson ((j.getObjVal? "value").toOption.getD Json.null)
      match st.o.trials[id]? with
      | none => (some st, "BAD")
      | some _ =>
        let st := setObs st id (Metrics.update (getObs st id) step v)
        (some (applyWrites st (writesOf alg st.o (.update id none))), "ok")
    | .ok "end", some st =>
      let id := (j.getObjValAs? Nat "id").toOption.getD 0
      let oc : Outcome := match (j.getObjValAs? String "status").toOption with
        | some "COMPLETED" => .completed | some "FAILED" => .failed | _ => .invalid
      -- score_trial: best value of the objective over the per-step means; NaN ⇒ none
      let best := Metrics.bestValue st.minimize (getObs st id)
      let sc : Option Int := match best with | some (.val _) => some 0 | _ => none
      let a : Alg V A := { alg with scoreOf := fun _ => sc }
      -- first lines of `end_trial`: the stored trial takes the reported values, `_record_values` again (Growth.syncVals / recordS)
      let st := match (j.getObjValAs? String "values").toOption, (j.getObjValAs? String "hkey").toOption with
        | some v, some hk =>
          match st.o.trials[id]? with
          | some _ =>
            { st with o := Growth.syncVals (fun a _ _ => a) st.o id v,
                      gs := Growth.recordS st.tuneNew st.gs ((assocGet st.idHash id).getD "") hk,
                      idHash := assocSet st.idHash id hk }
          | none => st
        | _, _ => st
      let ws := writesOf a st.o (.endT id oc)
      let r := endT a st.o id oc
      match r.2 with
      | .abort => (some { st with o := r.1 }, "ABORT")
      | .ok =>
        let st' := { st with o := r.1 }
        let st' := if oc == .completed then
            { st' with side := { st'.side with score := assocSet st'.side.score id (best.getD .nan) } } else st'
        -- metrics are dropped when the trial is queued for retry
        let st' := if r.1.retryQ.contains id && !(st.o.retryQ.contains id) then setObs st' id [] else st'
        let st' := applyWrites st' ws
        let scoreStr := match best, oc with
          | some v, .completed => fvStr v
          | _, _ => "-"
        (some st', "ok score=" ++ scoreStr ++ " | " ++ stateStr st')
      | _ => (some st, "BAD")
    | .ok "budget", some st =>
      (some { st with budget := (j.getObjValAs? Nat "k").toOption }, "ok")
    | .ok "save", some st =>
      (some (doWriteOracle st), "ok")
    | .ok "reload", some st =>
      match reload st.o st.disk with
      | none => (some st, "reload-error")
      | some o' =>
        let side : Side :=
          { obs := (List.range o'.trials.length).map (fun i => (i, ((assocGet st.fileSide i).map (·.1)).getD []))
            score := (List.range o'.trials.length).filterMap (fun i =>
              match assocGet st.fileSide i with | some (_, some v) => some (i, v) | _ => none) }
        let st' := { st with o := o', side := side, budget := none,
                             gs := (st.fileGs.map (·.1)).getD ⟨[], 0, []⟩, idHash := (st.fileGs.map (·.2)).getD [] }
        (some st', "reloaded | " ++ stateStr st')
    | .ok "tried", some st =>
      (some st, "tried " ++ String.intercalate ";" (st.gs.tried.eraseDups.toArray.qsort (· < ·)).toList)
    | .ok "vals", some st =>
      let id := (j.getObjValAs? Nat "id").toOption.getD 0
      (some st, "vals " ++ match st.o.trials[id]? with | some t => t.vals | none => "?")
    | .ok "remaining", some st =>
      (some st, match st.o.maxTrials with | some m => s!"remaining {m - st.o.trials.length}" | none => "remaining none")
    | .ok "best", some st =>
      let n := (j.getObjValAs? Nat "n").toOption.getD 1
      (some st, "best " ++ String.intercalate "," ((rankOf st n).map (pad st.width)))
    | .ok "search", _ =>
      -- the whole `BaseTuner.search` loop of one tuner over a scripted `run_trial`
      let mt := (j.getObjValAs? Nat "max_trials").toOption
      let mr := (j.getObjValAs? Nat "max_retries").toOption.getD 0
      let mc := (j.getObjValAs? Nat "max_consec").toOption.getD 3
      let script := match (j.getObjVal? "script").toOption with | some (.arr a) => a.toList.map attemptOf | _ => []
      let pops := match (j.getObjVal? "pops").toOption with | some (.arr a) => a.toList.map popOf | _ => []
      let fuel := (j.getObjValAs? Nat "fuel").toOption.getD 1000
      let o : Oracle V (List (Pop V)) := Core.init pops mt mr mc
      let r := Search.search popAlg fuel o script []
      let sts := String.intercalate "," (r.1.trials.map (fun t => statusStr t.status))
      (st, String.intercalate ";" (r.2.map evStr) ++ " | " ++ sts)
    | _, _ => (st, "bad-op")

end Driver
