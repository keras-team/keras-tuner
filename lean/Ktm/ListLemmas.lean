/-! General facts about `List` (core library only) that several parts of the development use. -/
namespace List
variable {α β γ : Type}

theorem lt_length_of_getElem? {l : List α} {i : Nat} {a : α} (h : l[i]? = some a) : i < l.length :=
  (getElem?_eq_some_iff.mp h).1

theorem getElem?_concat_some {l : List α} {a b : α} {i : Nat} (h : (l ++ [a])[i]? = some b) :
    l[i]? = some b ∨ (i = l.length ∧ a = b) := by
  rcases Nat.lt_trichotomy i l.length with hi | hi | hi
  · exact Or.inl (getElem?_append_left hi ▸ h)
  · rw [hi, getElem?_concat_length] at h
    exact Or.inr ⟨hi, Option.some.inj h⟩
  · rw [getElem?_eq_none (Nat.le_trans (Nat.le_of_eq length_append) hi)] at h
    cases h

theorem nodup_append_singleton {l : List α} {a : α} : (l ++ [a]).Nodup ↔ l.Nodup ∧ a ∉ l :=
  (perm_append_singleton a l).nodup_iff.trans (nodup_cons.trans And.comm)

/-- a property of every element relative to the elements before it, for a list grown by one at the end -/
theorem forall_split_append_singleton {P : List α → α → Prop} {l : List α} {a : α}
    (hl : ∀ pre x post, l = pre ++ x :: post → P pre x) (ha : P l a) :
    ∀ pre x post, l ++ [a] = pre ++ x :: post → P pre x := by
  intro pre x post h
  rcases eq_nil_or_concat post with rfl | ⟨post', b, rfl⟩
  · obtain ⟨rfl, h2⟩ := append_inj' h rfl
    cases h2
    exact ha
  · rw [concat_eq_append, ← cons_append, ← append_assoc] at h
    exact hl pre x post' (append_inj' h rfl).1

theorem append_perm_cons_append {l r r' : List α} {a : α} (h : r' ~ a :: r) : l ++ r' ~ a :: (l ++ r) :=
  (h.append_left l).trans perm_middle

theorem getElem?_of_map_eq {l₁ : List α} {l₂ : List β} {g : α → γ} {g' : β → γ} (h : l₁.map g = l₂.map g')
    {i : Nat} {x : α} (hx : l₁[i]? = some x) : ∃ y, l₂[i]? = some y ∧ g' y = g x := by
  have hi : (l₂.map g')[i]? = some (g x) := by rw [← h, getElem?_map, hx, Option.map_some]
  rwa [getElem?_map, Option.map_eq_some_iff] at hi

theorem getElem?_modify_ite (f : α → α) (i : Nat) (l : List α) (j : Nat) :
    (l.modify i f)[j]? = if i = j then (l[j]?).map f else l[j]? := by
  by_cases h : i = j
  · rw [if_pos h, h, getElem?_modify_eq]
    rfl
  · rw [if_neg h, getElem?_modify_ne f l h]

theorem map_modify_comm {l : List α} {i : Nat} {f : α → α} (f' : β → β) (g : α → β)
    (h : ∀ x, g (f x) = f' (g x)) : (l.modify i f).map g = (l.map g).modify i f' := by
  apply ext_getElem?
  intro j
  simp only [getElem?_map, getElem?_modify_ite]
  split
  · simp only [Option.map_map, Function.comp_def, h]
  · rfl

theorem mem_of_lookup_eq_some [BEq α] [LawfulBEq α] {l : List (α × β)} {a : α} {b : β}
    (h : l.lookup a = some b) : (a, b) ∈ l := by
  obtain ⟨l₁, l₂, rfl, _⟩ := lookup_eq_some_iff.mp h
  exact mem_append_right _ (mem_cons_self ..)

theorem lookup_eq_none_iff_not_mem_keys [BEq α] [LawfulBEq α] {l : List (α × β)} {a : α} :
    l.lookup a = none ↔ a ∉ l.map (·.1) := by
  rw [lookup_eq_none_iff]
  constructor
  · intro h hm
    obtain ⟨p, hp, rfl⟩ := mem_map.mp hm
    exact bne_iff_ne.mp (h p hp) rfl
  · exact fun h p hp => bne_iff_ne.mpr fun e => h (mem_map.mpr ⟨p, hp, e.symm⟩)

theorem lookup_append_of_not_mem_keys [BEq α] [LawfulBEq α] {l₁ l₂ : List (α × β)} {a : α}
    (h : a ∉ l₁.map (·.1)) : (l₁ ++ l₂).lookup a = l₂.lookup a := by
  rw [lookup_append, lookup_eq_none_iff_not_mem_keys.mpr h, Option.none_or]

theorem lookup_eq_some_of_mem_of_nodup_keys [BEq α] [LawfulBEq α] {l : List (α × β)} {a : α} {b : β}
    (hnd : (l.map (·.1)).Nodup) (hm : (a, b) ∈ l) : l.lookup a = some b := by
  obtain ⟨s, t, rfl⟩ := append_of_mem hm
  rw [map_append, nodup_append] at hnd
  rw [lookup_append_of_not_mem_keys fun h => hnd.2.2 a h a (mem_cons_self ..) rfl, lookup_cons_self]

theorem mem_map_filter_ne [DecidableEq β] {l : List α} {f : α → β} {a b : β} :
    b ∈ (l.filter (fun x => f x != a)).map f ↔ b ∈ l.map f ∧ b ≠ a := by
  simp only [mem_map, mem_filter]
  constructor
  · rintro ⟨x, ⟨hx, hne⟩, rfl⟩
    exact ⟨⟨x, hx, rfl⟩, bne_iff_ne.mp hne⟩
  · rintro ⟨⟨x, hx, rfl⟩, hne⟩
    exact ⟨x, ⟨hx, bne_iff_ne.mpr hne⟩, rfl⟩

theorem map_filter_ne_eq_erase [DecidableEq β] {l : List α} {f : α → β} (hnd : (l.map f).Nodup) (a : β) :
    (l.filter (fun x => f x != a)).map f = (l.map f).erase a := by
  rw [hnd.erase_eq_filter, filter_map]
  rfl

theorem length_filter_ne_add_one [DecidableEq β] {l : List α} {f : α → β} {a : β} (hnd : (l.map f).Nodup)
    (hm : a ∈ l.map f) : (l.filter (fun x => f x != a)).length + 1 = l.length := by
  obtain ⟨x, hx, _⟩ := mem_map.mp hm
  rw [← length_map (f := f), map_filter_ne_eq_erase hnd a, length_erase_of_mem hm, length_map]
  exact Nat.sub_add_cancel (length_pos_of_mem hx)

theorem count_filter_ite [BEq α] [LawfulBEq α] {p : α → Bool} {a : α} {l : List α} :
    (l.filter p).count a = if p a then l.count a else 0 := by
  split
  · next h => exact count_filter h
  · next h => exact count_eq_zero_of_not_mem fun hm => h (mem_filter.mp hm).2

theorem foldl_keeps {f : α → β → α} (p : α → γ) (h : ∀ a b, p (f a b) = p a) (l : List β) (a : α) :
    p (l.foldl f a) = p a :=
  foldlRecOn (motive := fun x => p x = p a) l f rfl fun x hx b _ => (h x b).trans hx

/-- `s l e` is the element that follows the first `e` in `l`, said by the equations such a function is defined by (the grid
model has three, at three element types: each satisfies them by `rfl`) -/
structure IsSucc [DecidableEq α] (s : List α → α → Option α) : Prop where
  nil : ∀ e, s [] e = none
  single : ∀ a e, s [a] e = none
  cons : ∀ a b r e, s (a :: b :: r) e = if a = e then some b else s (b :: r) e

theorem IsSucc.split [DecidableEq α] {s : List α → α → Option α} (hs : IsSucc s) (A B : List α) (e : α) (h : e ∉ A) :
    s (A ++ e :: B) e = B.head? := by
  induction A with
  | nil =>
    cases B with
    | nil => exact hs.single e e
    | cons b bs => exact (hs.cons e b bs e).trans (if_pos rfl)
  | cons a as ih =>
    have hae : a ≠ e := fun he => h (he ▸ mem_cons_self)
    have ih := ih (fun hm => h (mem_cons_of_mem _ hm))
    cases hAB : as ++ e :: B with
    | nil => cases as <;> cases hAB
    | cons x xs => rw [cons_append, hAB, hs.cons, if_neg hae, ← hAB, ih]

theorem IsSucc.index [DecidableEq α] {s : List α → α → Option α} (hs : IsSucc s) {l : List α} (hnd : l.Nodup) {i : Nat} {e : α}
    (h : l[i]? = some e) : s l e = l[i + 1]? := by
  obtain ⟨hi, he⟩ := getElem?_eq_some_iff.mp h
  have hl : l.take i ++ e :: l.drop (i + 1) = l := by
    rw [← he, getElem_cons_drop, take_append_drop]
  have hnot : e ∉ l.take i := by
    rw [← hl] at hnd
    exact fun hm => (nodup_append.mp hnd).2.2 _ hm _ mem_cons_self rfl
  rw [← hl, hs.split _ _ _ hnot, hl, head?_drop]

end List
