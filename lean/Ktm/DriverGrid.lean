import Lean.Data.Json
import Ktm.GridTop
import Ktm.RandomEnum
/-! Line-protocol driver for the `grid` suite (C09, C05, C06): the whole GridSearchOracle runs in the model
    (`Grid.alg` over the generic core); also the enumeration `enum` and the random sample `sample`. Names and
    values are coded as numbers by the harness (value code = index in the grid-ordered value list). -/
open Lean Core GridSucc

namespace DriverGrid

structure St where
  o : Grid.O
  tuners : List String

def natList (j : Json) : List Nat :=
  match j with | .arr a => a.toList.filterMap (fun x => (x.getNat?).toOption) | _ => []

def ghpOf (j : Json) : GHP :=
  { name := (j.getObjValAs? Nat "name").toOption.getD 0
    vals := natList ((j.getObjVal? "vals").toOption.getD Json.null)
    conds := match (j.getObjVal? "conds").toOption with
      | some (.arr a) => a.toList.filterMap (fun c => match c with
          | .arr #[p, vs] => (p.getNat?).toOption.map (fun p => (p, natList vs)) | _ => none)
      | _ => [] }

def spaceOf (j : Json) : List GHP :=
  match (j.getObjVal? "space").toOption with | some (.arr a) => a.toList.map ghpOf | _ => []

def envStr (e : Env) : String :=
  String.intercalate "," ((e.toArray.qsort (fun a b => a.1 < b.1)).toList.map (fun p => s!"{p.1}={p.2}"))

def statusStr : Status → String
  | .running => "RUNNING" | .invalid => "INVALID" | .completed => "COMPLETED" | .failed => "FAILED"

def tunerId (st : St) (name : String) : St × Nat :=
  match st.tuners.idxOf? name with
  | some i => (st, i)
  | none => ({ st with tuners := st.tuners ++ [name] }, st.tuners.length)

def stateStr (st : St) : String :=
  let o := st.o
  let sts := String.intercalate "," ((List.range o.trials.length).map (fun i =>
    match o.trials[i]? with | some t => s!"{i}:{statusStr t.status}:{t.runs}" | none => "?"))
  let ong := String.intercalate "," ((o.ongoing.map (fun p => s!"{st.tuners.getD p.1 "?"}={p.2}")).toArray.qsort (· < ·)).toList
  s!"trials[{sts}] ongoing[{ong}] retry[{String.intercalate "," (o.retryQ.map toString)}] end[{String.intercalate "," (o.endOrder.map toString)}] ordered[{String.intercalate "," (o.alg.ordered.map toString)}] queue[{String.intercalate "," (o.alg.queue.map toString)}]"

def handle (st : Option St) (j : Json) : Option St × String :=
    match j.getObjValAs? String "op", st with
    | .ok "init", _ =>
      let space := spaceOf j
      let mt := (j.getObjValAs? Nat "max_trials").toOption
      let mr := (j.getObjValAs? Nat "max_retries").toOption.getD 0
      let mc := (j.getObjValAs? Nat "max_consec").toOption.getD 3
      let o := { Grid.init space with maxTrials := mt, maxRetries := mr, maxConsec := mc }
      (some { o := o, tuners := [] }, s!"size={(enum space []).length} first={envStr (first space [])}")
    | .ok "enum", _ =>
      (st, String.intercalate ";" ((enum (spaceOf j) []).map envStr))
    | .ok "sample", _ =>
      -- `_random_values`: the k-th sampled entry takes the value with index `picks[k]`
      let picks := natList ((j.getObjVal? "picks").toOption.getD Json.null)
      let r := sample (fun k _ => picks.getD k 0) (spaceOf j) [] 0
      (st, s!"{envStr r.1} draws={r.2}")
    | .ok "create", some st =>
      let name := (j.getObjValAs? String "tuner").toOption.getD "?"
      let (st, tid) := tunerId st name
      let r := create Grid.alg st.o tid 0
      let st := { st with o := r.1 }
      let out := match r.2 with
        | .trial id v => s!"RUNNING {id} {envStr v}"
        | .idle => "IDLE"
        | .stopped => "STOPPED"
        | _ => "BAD"
      (some st, out ++ " | " ++ stateStr st)
    | .ok "update", some st =>
      let id := (j.getObjValAs? Nat "id").toOption.getD 0
      let v := (j.getObjValAs? Int "value").toOption
      (some { st with o := (update st.o id v).1 }, "ok")
    | .ok "end", some st =>
      let id := (j.getObjValAs? Nat "id").toOption.getD 0
      let oc : Outcome := match (j.getObjValAs? String "status").toOption with
        | some "COMPLETED" => .completed | some "FAILED" => .failed | _ => .invalid
      let r := endT Grid.alg st.o id oc
      let st := { st with o := r.1 }
      (some st, (match r.2 with | .ok => "ok" | .abort => "ABORT" | _ => "BAD") ++ " | " ++ stateStr st)
    | _, _ => (st, "bad-op")

end DriverGrid
