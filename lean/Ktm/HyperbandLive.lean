import Ktm.Live
import Ktm.HyperbandOracle
/-! C11 — liveness for Hyperband: the schedule is the budget. -/
namespace Live
open Core

/-- Hyperband with finite iterations: along every interleaving of workers, finishing orders and outcomes at most
    `2 · (iterations · numBrackets · M) · (max_retries + 1)` steps hand out or end a trial (`M` bounds the places of one bracket) -/
theorem hyperband_productive_bounded (cfg : HB.Cfg) (M : Nat) (hnb : 0 < cfg.numBrackets) (hit : 0 < cfg.iterations)
    (hpos : ∀ b, 0 < cfg.size b 0) (hM : ∀ num, num < cfg.numBrackets → HB.cap cfg (HB.newBracket num) ≤ M) (as : List Act) :
    productiveCount HB.alg ⟨HB.init cfg, [], false⟩ as ≤
      2 * (cfg.iterations * cfg.numBrackets * M * ((HB.init cfg).maxRetries + 1)) :=
  productive_bounded_of HB.alg _ _ (inv_init _ none 0 3) (kinv_init _ none 0 3) rfl
    (HB.trials_bounded cfg M hnb hit hpos hM) as

end Live
#print axioms Live.hyperband_productive_bounded
