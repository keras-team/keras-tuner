import Ktm.Grid
/-! C09: the grid invariant `GInv` (trial `i` carries the `i`-th combination of the enumeration, the ordered id list
is `0 … n−1`, queued ids are below `n` (so `valsOf` succeeds on them), the last issued id is still queued or running) and
what `populate_space` answers in a state satisfying it. -/
namespace Grid
open Core GridSucc

theorem insertAfter_concat (l : List Nat) (a x : Nat) (h : a ∉ l) : insertAfter (l ++ [a]) a x = l ++ [a, x] := by
  induction l with
  | nil => exact if_pos rfl
  | cons b l ih =>
    have hb : b ≠ a := fun he => h (he ▸ List.mem_cons_self)
    rw [List.cons_append, insertAfter, if_neg hb, ih (fun hm => h (List.mem_cons_of_mem _ hm)), List.cons_append]

theorem insertAfter_range (m : Nat) : insertAfter (List.range (m + 1)) m (m + 1) = List.range (m + 2) := by
  rw [List.range_succ, insertAfter_concat _ _ _ List.not_mem_range_self, List.range_succ, List.range_succ, List.append_assoc]
  rfl

theorem isSucc_succOf : List.IsSucc succOf := ⟨fun _ => rfl, fun _ _ => rfl, fun _ _ _ _ => rfl⟩

theorem succOf_range (n i : Nat) (hi : i < n) :
    succOf (List.range n) i = if i + 1 < n then some (i + 1) else none := by
  rw [isSucc_succOf.index List.nodup_range (List.getElem?_range hi)]
  split
  · next hlt => exact List.getElem?_range hlt
  · next hge => exact List.getElem?_eq_none (by rw [List.length_range]; exact Nat.le_of_not_lt hge)

/-- the body of the loop over `_populate_next`: the combination after that of trial `i`, unless there is none or the
    trial following `i` in the ordered list carries it already -/
def offer (o : O) (s : St) (i : Nat) : Option Env :=
  match valsOf o i with
  | none => none
  | some old =>
    match next s.space [] old with
    | none => none
    | some new =>
      match succOf s.ordered i with
      | some nid =>
        match valsOf o nid with
        | some nv => if covered new nv then none else some new
        | none => some new
      | none => some new

theorem scanQueue_cons (o : O) (s : St) (i : Nat) (q : List Nat) :
    scanQueue o s (i :: q) = match offer o s i with
      | some new => (q, some (i, new))
      | none => scanQueue o s q := by
  rw [scanQueue, offer]
  cases valsOf o i with
  | none => rfl
  | some old =>
    dsimp only
    cases next s.space [] old with
    | none => rfl
    | some new =>
      dsimp only
      cases succOf s.ordered i with
      | none => rfl
      | some nid =>
        dsimp only
        cases valsOf o nid with
        | none => rfl
        | some nv =>
          dsimp only
          split <;> rfl

theorem scanQueue_some {o : O} {s : St} {q q' : List Nat} {i : Nat} {new : Env}
    (h : scanQueue o s q = (q', some (i, new))) : offer o s i = some new ∧ i ∈ q ∧ ∀ j ∈ q', j ∈ q := by
  induction q with
  | nil => cases h
  | cons k q ih =>
    rw [scanQueue_cons] at h
    split at h
    · next hoff =>
      cases h
      exact ⟨hoff, List.mem_cons_self, fun j hj => List.mem_cons_of_mem _ hj⟩
    · obtain ⟨h1, h2, h3⟩ := ih h
      exact ⟨h1, List.mem_cons_of_mem _ h2, fun j hj => List.mem_cons_of_mem _ (h3 j hj)⟩

theorem scanQueue_none {o : O} {s : St} {q q' : List Nat} (h : scanQueue o s q = (q', none)) :
    q' = [] ∧ ∀ i ∈ q, offer o s i = none := by
  induction q with
  | nil => cases h; exact ⟨rfl, fun i hi => (by cases hi)⟩
  | cons k q ih =>
    rw [scanQueue_cons] at h
    split at h
    · cases h
    · obtain ⟨h1, h2⟩ := ih h
      refine ⟨h1, fun i hi => ?_⟩
      rcases List.mem_cons.mp hi with rfl | hi
      · assumption
      · exact h2 i hi

theorem populate_cases (o : O) (c : Nat) :
    (o.trials.length = 0 ∧
      populate o c = ({ o.alg with ordered := o.alg.ordered ++ [o.trials.length],
                                   queue := o.alg.queue ++ [o.trials.length] }, .run (first o.alg.space []))) ∨
    (o.trials.length ≠ 0 ∧ ∃ q i new, scanQueue o o.alg o.alg.queue = (q, some (i, new)) ∧
      populate o c = ({ o.alg with ordered := insertAfter o.alg.ordered i o.trials.length, queue := q }, .run new)) ∨
    (o.trials.length ≠ 0 ∧ ∃ q, scanQueue o o.alg o.alg.queue = (q, none) ∧
      ((o.ongoing = [] ∧ populate o c = ({ o.alg with queue := q }, .stop)) ∨
       (o.ongoing ≠ [] ∧ populate o c = ({ o.alg with queue := q }, .idle)))) := by
  unfold populate
  by_cases hn : o.trials.length = 0
  · exact Or.inl ⟨hn, if_pos hn⟩
  · right
    simp only [if_neg hn]
    cases hsq : scanQueue o o.alg o.alg.queue with
    | mk q r =>
      cases r with
      | some p => exact Or.inl ⟨hn, q, p.1, p.2, rfl, rfl⟩
      | none =>
        refine Or.inr ⟨hn, q, rfl, ?_⟩
        cases o.ongoing with
        | nil => exact Or.inl ⟨rfl, rfl⟩
        | cons p l => exact Or.inr ⟨nofun, rfl⟩

structure SpaceOK (space : List GHP) : Prop where
  vals_ne : ∀ g ∈ space, g.vals ≠ []
  names_nodup : (names space).Nodup
  enum_nodup : (enum space []).Nodup     -- holds when the value lists are duplicate-free: `GridSucc.enum_nodup`

structure GInv (o : O) : Prop where
  vals : ∀ (i : Nat) (t : Trial Env), o.trials[i]? = some t → (enum o.alg.space [])[i]? = some t.vals
  ordered : o.alg.ordered = List.range o.trials.length
  queue_lt : ∀ i ∈ o.alg.queue, i < o.trials.length
  last_pending : o.trials.length ≠ 0 → o.trials.length < (enum o.alg.space []).length →
      (o.trials.length - 1 ∈ o.alg.queue ∨ o.trials.length - 1 ∈ o.ongoing.map (·.2))

namespace GInv

theorem isPrefix {o : O} (g : GInv o) : o.trials.map (·.vals) <+: enum o.alg.space [] := by
  refine List.prefix_iff_getElem?.mpr fun i hi => ?_
  rw [List.getElem_map]
  exact g.vals i _ (List.getElem?_eq_getElem _)

theorem length_le {o : O} (g : GInv o) : o.trials.length ≤ (enum o.alg.space []).length :=
  List.length_map Trial.vals ▸ g.isPrefix.length_le

theorem of_keep {o o' : O} (g : GInv o) (halg : o'.alg = o.alg)
    (hvals : o'.trials.map (·.vals) = o.trials.map (·.vals))
    (hon : ∀ i ∈ o.ongoing.map (·.2), i ∈ o'.ongoing.map (·.2)) : GInv o' := by
  have hlen : o'.trials.length = o.trials.length := by
    simpa using congrArg List.length hvals
  refine ⟨fun i t' ht' => ?_, ?_, ?_, ?_⟩
  · obtain ⟨t, ht, hv⟩ := List.getElem?_of_map_eq hvals ht'
    rw [halg, ← hv]
    exact g.vals i t ht
  · rw [halg, hlen]; exact g.ordered
  · rw [halg, hlen]; exact g.queue_lt
  · rw [halg, hlen]; exact fun h0 hlt => (g.last_pending h0 hlt).imp_right (hon _)

end GInv

theorem valsOf_of_ginv (o : O) (g : GInv o) (i : Nat) (hi : i < o.trials.length) :
    ∃ e, valsOf o i = some e ∧ (enum o.alg.space [])[i]? = some e := by
  have ht : o.trials[i]? = some (o.trials[i]'hi) := List.getElem?_eq_getElem hi
  exact ⟨(o.trials[i]'hi).vals, congrArg (Option.map _) ht, g.vals i _ ht⟩

theorem offer_of_ginv (o : O) (hs : SpaceOK o.alg.space) (g : GInv o) (i : Nat) (hi : i < o.trials.length) :
    offer o o.alg i = if i + 1 < o.trials.length then none else (enum o.alg.space [])[i + 1]? := by
  obtain ⟨e, hve, hEe⟩ := valsOf_of_ginv o g i hi
  have hnext : next o.alg.space [] e = (enum o.alg.space [])[i + 1]? := by
    rw [next_is_succ o.alg.space [] e hs.vals_ne hs.names_nodup (List.mem_of_getElem? hEe)]
    exact isSucc_succIn.index hs.enum_nodup hEe
  simp only [offer, hve, hnext, g.ordered, succOf_range _ _ hi]
  cases hE : (enum o.alg.space [])[i + 1]? with
  | none => simp only [ite_self]
  | some new =>
    by_cases hlt : i + 1 < o.trials.length
    · -- the next trial carries `enum[i+1]`, which is `new`: the offer is covered
      obtain ⟨e', hve', hEe'⟩ := valsOf_of_ginv o g (i + 1) hlt
      rw [hE] at hEe'; cases hEe'
      simp only [if_pos hlt, hve']
      exact if_pos (beq_self_eq_true new)
    · simp only [if_neg hlt]

theorem scanQueue_spec (o : O) (hs : SpaceOK o.alg.space) (g : GInv o) (q : List Nat)
    (hq : ∀ i ∈ q, i < o.trials.length) :
    (∀ q' i new, scanQueue o o.alg q = (q', some (i, new)) →
        i + 1 = o.trials.length ∧ (enum o.alg.space [])[o.trials.length]? = some new ∧ (∀ j ∈ q', j ∈ q)) ∧
    (∀ q', scanQueue o o.alg q = (q', none) →
        q' = [] ∧ (o.trials.length - 1 ∈ q → o.trials.length ≠ 0 → (enum o.alg.space []).length ≤ o.trials.length)) := by
  constructor
  · intro q' i new h
    obtain ⟨hoff, hi, hsub⟩ := scanQueue_some h
    rw [offer_of_ginv o hs g i (hq i hi)] at hoff
    split at hoff
    · cases hoff
    · next hnot =>
      have hi1 : i + 1 = o.trials.length := Nat.le_antisymm (hq i hi) (Nat.le_of_not_lt hnot)
      exact ⟨hi1, hi1 ▸ hoff, hsub⟩
  · intro q' h
    obtain ⟨hq', hnone⟩ := scanQueue_none h
    refine ⟨hq', fun hm hn0 => ?_⟩
    have hoff := hnone _ hm
    rw [offer_of_ginv o hs g _ (hq _ hm), Nat.sub_add_cancel (Nat.pos_of_ne_zero hn0), if_neg (Nat.lt_irrefl _)] at hoff
    exact List.getElem?_eq_none_iff.mp hoff

/-- what `populate_space` answers in a state satisfying the invariant: the combination after the last issued
    one — or, with the queue emptied, STOPPED when nothing runs and nothing is left to issue, IDLE when the last
    issued trial is still running (or nothing is left to issue) -/
theorem populate_spec (o : O) (hs : SpaceOK o.alg.space) (g : GInv o) (c : Nat) :
    (∃ v s', populate o c = (s', .run v) ∧ (enum o.alg.space [])[o.trials.length]? = some v ∧
        s'.space = o.alg.space ∧ s'.ordered = List.range (o.trials.length + 1) ∧
        ∀ i ∈ s'.queue, i < o.trials.length + 1) ∨
    (populate o c = ({ o.alg with queue := [] }, .stop) ∧ o.ongoing = [] ∧
        (enum o.alg.space []).length ≤ o.trials.length) ∨
    (populate o c = ({ o.alg with queue := [] }, .idle) ∧
        (o.trials.length < (enum o.alg.space []).length → o.trials.length - 1 ∈ o.ongoing.map (·.2))) := by
  have hspec := scanQueue_spec o hs g o.alg.queue g.queue_lt
  rcases populate_cases o c with ⟨hn0, hp⟩ | ⟨hn0, q, i, new, hsq, hp⟩ | ⟨hn0, q, hsq, hp⟩
  · -- first trial: the all-defaults combination heads the enumeration
    refine Or.inl ⟨_, _, hp, ?_, rfl, ?_, fun i hi => ?_⟩
    · rw [hn0, ← List.head?_eq_getElem?]
      exact enum_head _ hs.vals_ne []
    · show o.alg.ordered ++ [o.trials.length] = _
      rw [g.ordered, List.range_succ]
    · rcases List.mem_append.mp hi with h | h
      · exact Nat.lt_succ_of_lt (g.queue_lt i h)
      · rw [List.mem_singleton.mp h]; exact Nat.lt_succ_self _
  · obtain ⟨hi1, hnew, hsub⟩ := hspec.1 q i new hsq
    refine Or.inl ⟨new, _, hp, hnew, rfl, ?_, fun j hj => Nat.lt_succ_of_lt (g.queue_lt j (hsub j hj))⟩
    show insertAfter o.alg.ordered i o.trials.length = _
    rw [g.ordered, ← hi1]
    exact insertAfter_range i
  · obtain ⟨rfl, hlast⟩ := hspec.2 q hsq
    -- the last issued id is queued or running, and queued it would have offered its successor
    have hrun : o.trials.length < (enum o.alg.space []).length → o.trials.length - 1 ∈ o.ongoing.map (·.2) :=
      fun hlt => (g.last_pending hn0 hlt).resolve_left fun h => Nat.not_le_of_lt hlt (hlast h hn0)
    rcases hp with ⟨hon, hp⟩ | ⟨_, hp⟩
    · refine Or.inr (Or.inl ⟨hp, hon, Nat.le_of_not_lt fun hlt => ?_⟩)
      have := hrun hlt
      rw [hon] at this
      cases this
    · exact Or.inr (Or.inr ⟨hp, hrun⟩)

end Grid
#print axioms Grid.scanQueue_spec
