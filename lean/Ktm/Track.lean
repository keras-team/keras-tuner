import Ktm.Metrics
/-! C18 — `Oracle.update_trial` over `MetricsTracker`: one report is a dict of (metric, value) pairs for one step.
A metric seen for the first time is registered with a direction: the objective's own direction if the metric is the
objective (or, for a multi-objective, one of its components — defect F22, repaired), otherwise what its name says
(`infer_metric_direction`, a parameter here), otherwise "min". Then the value is recorded at the step. -/
namespace Track
open Metrics

structure Obj where
  name : String
  minimize : Bool
  parts : List (String × Bool)      -- components of a multi-objective (empty for a single objective)

def partDir : List (String × Bool) → String → Option Bool
  | [], _ => none
  | (n, d) :: ps, m => if n = m then some d else partDir ps m

/-- `_maybe_infer_direction_from_objective`: the objective itself, then its components -/
def objDir (o : Obj) (m : String) : Option Bool :=
  if o.name = m then some o.minimize else partDir o.parts m

/-- the direction `MetricsTracker.register` ends up with (`true` = minimise) -/
def dirOf (infer : String → Option Bool) (o : Obj) (m : String) : Bool :=
  match objDir o m with
  | some d => d
  | none => (infer m).getD true

structure Hist where
  minimize : Bool
  obs : List Obs

abbrev Tracker := List (String × Hist)      -- registration order

def lookup : Tracker → String → Option Hist
  | [], _ => none
  | (n, h) :: t, m => if n = m then some h else lookup t m

/-- one pair of a report -/
def upd (infer : String → Option Bool) (o : Obj) (step : Int) : Tracker → String → FV → Tracker
  | [], m, v => [(m, ⟨dirOf infer o m, update [] step v⟩)]
  | (n, h) :: t, m, v =>
    if n = m then (n, { h with obs := update h.obs step v }) :: t else (n, h) :: upd infer o step t m v

/-- one call of `update_trial` -/
def report (infer : String → Option Bool) (o : Obj) (t : Tracker) (step : Int) (kvs : List (String × FV)) : Tracker :=
  kvs.foldl (fun t kv => upd infer o step t kv.1 kv.2) t

/-- a whole trial: reports in sequence -/
def reports (infer : String → Option Bool) (o : Obj) (rs : List (Int × List (String × FV))) : Tracker :=
  rs.foldl (fun t r => report infer o t r.1 r.2) []

/-- what a report of value `v` at `step` does to the record of one metric -/
def into (infer : String → Option Bool) (o : Obj) (step : Int) (m : String) (old : Option Hist) (v : FV) : Hist :=
  match old with
  | some h => { h with obs := update h.obs step v }
  | none => ⟨dirOf infer o m, update [] step v⟩

theorem lookup_upd (infer : String → Option Bool) (o : Obj) (step : Int) (t : Tracker) (m : String) (v : FV) (m' : String) :
    lookup (upd infer o step t m v) m' =
      if m = m' then some (into infer o step m (lookup t m) v) else lookup t m' := by
  fun_induction upd infer o step t m v with
  | case1 m v => rfl
  | case2 h t m v => -- the head is the record of `m`
    rw [lookup, lookup, if_pos rfl, lookup]
    by_cases h2 : m = m'
    · rw [if_pos h2, if_pos h2]
      rfl
    · rw [if_neg h2, if_neg h2, if_neg h2]
  | case3 n h t m v hnm ih => -- the head is another metric's
    rw [lookup, ih, lookup, if_neg hnm, lookup]
    by_cases h2 : n = m'
    · rw [if_pos h2, if_pos h2, if_neg (h2 ▸ Ne.symm hnm)]
    · rw [if_neg h2, if_neg h2]

/-- a metric that is not part of the report is untouched; a metric that is gets exactly its own value — whatever
    else the report holds and in whatever order (keys of a dict are distinct) -/
theorem report_one_metric (infer : String → Option Bool) (o : Obj) (step : Int) (kvs : List (String × FV))
    (hnd : (kvs.map (·.1)).Nodup) (t : Tracker) (m : String) :
    (m ∉ kvs.map (·.1) → lookup (report infer o t step kvs) m = lookup t m) ∧
    (∀ v, (m, v) ∈ kvs → lookup (report infer o t step kvs) m = some (into infer o step m (lookup t m) v)) := by
  induction kvs generalizing t with
  | nil => simp [report]
  | cons kv kvs ih =>
    obtain ⟨k, w⟩ := kv
    simp only [List.map_cons, List.nodup_cons] at hnd
    obtain ⟨hk, hnd'⟩ := hnd
    have hstep : report infer o t step ((k, w) :: kvs) = report infer o (upd infer o step t k w) step kvs := rfl
    obtain ⟨ih1, ih2⟩ := ih hnd' (upd infer o step t k w)
    constructor
    · intro hm
      simp only [List.map_cons, List.mem_cons, not_or] at hm
      rw [hstep, ih1 hm.2, lookup_upd, if_neg fun e => hm.1 e.symm]
    · intro v hv
      simp only [List.mem_cons, Prod.mk.injEq] at hv
      rcases hv with ⟨hmk, hvw⟩ | hv
      · subst hmk; subst hvw
        rw [hstep, ih1 hk, lookup_upd, if_pos rfl]
      · have hmem : m ∈ kvs.map (·.1) := List.mem_map_of_mem hv
        have hne : ¬ k = m := fun e => hk (e ▸ hmem)
        rw [hstep, ih2 v hv, lookup_upd, if_neg hne]

def WF (infer : String → Option Bool) (o : Obj) (t : Tracker) : Prop :=
  ∀ n h, (n, h) ∈ t → h.minimize = dirOf infer o n

theorem wf_upd (infer : String → Option Bool) (o : Obj) (step : Int) (t : Tracker) (m : String) (v : FV)
    (hw : WF infer o t) : WF infer o (upd infer o step t m v) := by
  fun_induction upd infer o step t m v with
  | case1 m v =>
    intro n h hm
    obtain ⟨rfl, rfl⟩ := Prod.mk.inj (List.mem_singleton.mp hm)
    rfl
  | case2 h0 t m v => -- the record of `m` keeps its direction
    intro n h hm
    rcases List.mem_cons.mp hm with e | hm
    · obtain ⟨rfl, rfl⟩ := Prod.mk.inj e
      exact hw n h0 List.mem_cons_self
    · exact hw n h (List.mem_cons_of_mem _ hm)
  | case3 n0 h0 t m v hnm ih =>
    intro n h hm
    rcases List.mem_cons.mp hm with e | hm
    · exact hw n h (e ▸ List.mem_cons_self)
    · exact ih (fun n h hm => hw n h (List.mem_cons_of_mem _ hm)) n h hm

/-- for every sequence of reports of a trial (any metrics, any order inside each report) every metric is tracked
    under the direction of its own name: the objective's as the user gave it (components of a multi-objective
    included), otherwise what the name says, otherwise "min" -/
theorem wf_reports (infer : String → Option Bool) (o : Obj) (rs : List (Int × List (String × FV))) :
    WF infer o (reports infer o rs) := by
  apply List.foldlRecOn rs
  · intro n h hm; cases hm
  · intro t ht r _
    apply List.foldlRecOn r.2 _ ht
    intro t ht kv _
    exact wf_upd infer o r.1 t kv.1 kv.2 ht

theorem dir_of_objective (infer : String → Option Bool) (o : Obj) : dirOf infer o o.name = o.minimize := by
  rw [dirOf, objDir, if_pos rfl]

theorem dir_of_component (infer : String → Option Bool) (o : Obj) (m : String) (d : Bool)
    (hne : o.name ≠ m) (hp : partDir o.parts m = some d) : dirOf infer o m = d := by
  rw [dirOf, objDir, if_neg hne, hp]

theorem dir_of_other (infer : String → Option Bool) (o : Obj) (m : String)
    (hne : o.name ≠ m) (hp : partDir o.parts m = none) : dirOf infer o m = (infer m).getD true := by
  rw [dirOf, objDir, if_neg hne, hp]

/-- `get_best_value` / `get_best_step` of a tracked metric, read in the direction it is tracked under -/
def best (h : Hist) : Option FV := Metrics.bestValue h.minimize h.obs
def bestStepOf (h : Hist) : Option Int := Metrics.bestStep h.minimize h.obs

/-- non-vacuity: objective `score` maximised, report {score, loss} then {loss, score}: `loss` is minimised, `score` maximised -/
example :
    let o : Obj := ⟨"score", false, []⟩
    let inf : String → Option Bool := fun n => if n = "loss" then some true else none
    let t := reports inf o [(0, [("score", .val (.fin 1)), ("loss", .val (.fin 2))]), (1, [("loss", .val (.fin 1)), ("score", .val (.fin 3))])]
    (lookup t "loss").map (·.minimize) = some true ∧ (lookup t "score").map (·.minimize) = some false := by
  decide

end Track
