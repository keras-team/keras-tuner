import Ktm.CoreInv
import Ktm.Random
import Ktm.GridSucc
/-! C06 / C01 — the search space grows while the search runs.

`end_trial` begins with `old_trial.hyperparameters = trial.hyperparameters; update_space(...)` and, after
scoring, `_record_values(trial)` ("record the values again in case of new hps appeared"). The generic model
`Core.endT` leaves the stored values alone; this file adds the missing step as `syncVals` (the stored trial takes
the values the tuner reports, the algorithm records them again) and the request kind `endWith id v oc`
(= `syncVals` followed by `endT`). The lifecycle invariant does not read the stored values, so it holds along
request lists with `endWith` as well (`inv_greachable`).

`_record_values` as the code has it: the new hash joins `_tried_so_far`; when it differs from the hash recorded for
that trial before (`_id_to_hash`) and new entries are tuned, the old hash is *removed* (`recordS`; the ghost field
`stale` collects what was removed). With `tune_new_entries = False` nothing is removed (removing there too is defect F21:
`stale_sampled_again`).

Proved for the sampling oracle `algS`: along every such request list the current values of every stored trial are
tried or stale (`Recorded`), so a fresh trial differs from all of them unless it is a stale configuration
(`fresh_differs_unless_stale`); without removal nothing becomes stale (`fresh_differs_not_tuned`).
That a removed configuration leaves an active entry of the grown space unbound is not proved (`Props.C06.growth_partial`);
such a configuration is not enumerated from the grown space (`stale_not_enumerated`).
Pairwise distinctness of the *final* values is not preserved by growth (a trial started as `{x:1}` may end as
`{x:1, y:d}` after a later trial was started as `{x:1, y:d}`); the code does not prevent that and the property
does not ask for it (nothing is *started* twice). -/
namespace Growth
open Core
variable {V A : Type}

/-- the first lines of `end_trial`: the stored trial takes the reported values; `_record_values` again -/
def syncVals (record : A → V → V → A) (o : Oracle V A) (id : Nat) (v : V) : Oracle V A :=
  match o.trials[id]? with
  | none => o
  | some t => { o with trials := setTrial o.trials id (fun t => { t with vals := v }), alg := record o.alg t.vals v }

theorem inv_syncVals (record : A → V → V → A) (o : Oracle V A) (id : Nat) (v : V) (h : Inv o) :
    Inv (syncVals record o id v) := by
  unfold syncVals
  split
  · exact h
  · exact h.congr id (fun t => { t with vals := v }) (fun _ => rfl) (fun _ => rfl) _

/-- requests of a search whose tuners may report changed hyperparameters at `end_trial` -/
inductive GOp (V : Type) | base (op : Op) | endWith (id : Nat) (v : V) (oc : Outcome)

def gstep (alg : Alg V A) (record : A → V → V → A) (o : Oracle V A) : GOp V → Oracle V A × Out V
  | .base op => step alg o op
  | .endWith id v oc => endT alg (syncVals record o id v) id oc

def grun (alg : Alg V A) (record : A → V → V → A) : Oracle V A → List (GOp V) → Oracle V A
  | o, [] => o
  | o, op :: ops =>
    let r := gstep alg record o op
    match r.2 with
    | .abort => r.1
    | _ => grun alg record r.1 ops

/-- as `Core.run_induction`: an `endWith` request is `syncVals` followed by the plain `endT` request -/
theorem grun_induction {P Q : Oracle V A → Prop} (alg : Alg V A) (record : A → V → V → A)
    (hstep : ∀ o op, P o → (step alg o op).2 ≠ .abort → P (step alg o op).1)
    (habort : ∀ o op, P o → (step alg o op).2 = .abort → Q (step alg o op).1)
    (hsync : ∀ o id v, P o → P (syncVals record o id v))
    (o : Oracle V A) (ops : List (GOp V)) (h : P o) : P (grun alg record o ops) ∨ Q (grun alg record o ops) := by
  induction ops generalizing o with
  | nil => exact Or.inl h
  | cons op ops ih =>
    obtain ⟨o', op', h', e⟩ : ∃ o' op', P o' ∧ gstep alg record o op = step alg o' op' := by
      cases op with
      | base op => exact ⟨o, op, h, rfl⟩
      | endWith id v oc => exact ⟨_, .endT id oc, hsync o id v h, rfl⟩
    rw [grun]
    split
    · next ha =>
      rw [e] at ha ⊢
      exact Or.inr (habort o' op' h' ha)
    · next ha =>
      rw [e] at ha ⊢
      exact ih _ (hstep o' op' h' ha)

theorem grun_invariant {P : Oracle V A → Prop} (alg : Alg V A) (record : A → V → V → A)
    (hstep : ∀ o op, P o → P (step alg o op).1) (hsync : ∀ o id v, P o → P (syncVals record o id v))
    (o : Oracle V A) (ops : List (GOp V)) (h : P o) : P (grun alg record o ops) :=
  (grun_induction (Q := P) alg record (fun o op h _ => hstep o op h) (fun o op h _ => hstep o op h) hsync o ops h).elim id id

theorem inv_greachable (alg : Alg V A) (record : A → V → V → A) (o : Oracle V A) (ops : List (GOp V)) (h : Inv o) :
    Inv (grun alg record o ops) ∨ (grun alg record o ops).aborted = true :=
  grun_induction (Q := fun o => o.aborted = true) alg record (inv_step alg) (fun o op _ => step_abort alg o op)
    (inv_syncVals record) o ops h

section sampling
variable {W : Type}

/-- tried set of a sampling oracle; `stale` is a ghost field (the hashes `_record_values` removed so far) -/
structure SSt (W : Type) where
  tried : List W
  maxCollisions : Nat
  stale : List W

def Recorded (o : Oracle W (SSt W)) : Prop :=
  ∀ (i : Nat) (t : Trial W), o.trials[i]? = some t → t.vals ∈ o.alg.tried ∨ t.vals ∈ o.alg.stale

namespace Recorded

theorem of_keep {o o' : Oracle W (SSt W)} (r : Recorded o) (ha : o'.alg = o.alg)
    (hv : o'.trials.map (·.vals) = o.trials.map (·.vals)) : Recorded o' := by
  intro i t' ht'
  obtain ⟨t, ht, hv'⟩ := List.getElem?_of_map_eq hv ht'
  rw [ha, ← hv']
  exact r i t ht

theorem ne_of_not_mem {o : Oracle W (SSt W)} (r : Recorded o) {v : W} (htried : v ∉ o.alg.tried)
    (hstale : v ∉ o.alg.stale) (i : Nat) (t : Trial W) (ht : o.trials[i]? = some t) : t.vals ≠ v :=
  fun hEq => (r i t ht).elim (fun h => htried (hEq ▸ h)) (fun h => hstale (hEq ▸ h))

end Recorded

variable [DecidableEq W]

def populateS (cands : Nat → List W) (o : Oracle W (SSt W)) (choice : Nat) : SSt W × Pop W :=
  match RandomAlg.pick o.alg.tried ((cands choice).take (o.alg.maxCollisions + 1)) with
  | some v => ({ o.alg with tried := o.alg.tried ++ [v] }, .run v)
  | none => (o.alg, .stop)

def algS (cands : Nat → List W) : Alg W (SSt W) :=
  { populate := populateS cands, onEnd := fun s _ => s, scoreOf := fun l => l.getLast?.join }

/-- `_record_values` at `end_trial`. `old` = what was recorded for this trial before (`_id_to_hash`), `new` = the
    reported values. `removeOld` is the condition under which the old hash is dropped when it differs:
    the repaired code drops it only when new entries are tuned. -/
def recordS (removeOld : Bool) (s : SSt W) (old new : W) : SSt W :=
  if removeOld && decide (old ≠ new) then
    { s with tried := s.tried.filter (fun w => decide (w ≠ old)) ++ [new], stale := s.stale ++ [old] }
  else { s with tried := s.tried ++ [new] }

theorem populateS_cases (cands : Nat → List W) (o : Oracle W (SSt W)) (c : Nat) :
    (∃ v, v ∉ o.alg.tried ∧ populateS cands o c = ({ o.alg with tried := o.alg.tried ++ [v] }, .run v)) ∨
    populateS cands o c = (o.alg, .stop) := by
  unfold populateS
  cases hp : RandomAlg.pick o.alg.tried ((cands c).take (o.alg.maxCollisions + 1)) with
  | none => exact Or.inr rfl
  | some v => exact Or.inl ⟨v, (RandomAlg.pick_spec _ _ _ hp).2, rfl⟩

theorem recorded_issue (cands : Nat → List W) (o : Oracle W (SSt W)) (r : Recorded o) (t c : Nat) :
    Recorded (issue o t (populateS cands o c)).1 := by
  rcases populateS_cases cands o c with ⟨v, _, hp⟩ | hp
  · rw [hp]
    intro i t' ht'
    rcases List.getElem?_concat_some ht' with h | ⟨_, rfl⟩
    · exact (r i t' h).imp_left (List.mem_append_left _)
    · exact Or.inl List.mem_concat_self
  · rw [hp]
    exact r.of_keep rfl rfl

theorem recorded_step (cands : Nat → List W) (o : Oracle W (SSt W)) (op : Op) (r : Recorded o) :
    Recorded (step (algS cands) o op).1 :=
  step_keeps (fun r ha hv _ => r.of_keep ha hv) (algS cands) o op (fun t c rask => recorded_issue cands (asking o t) rask t c)
    (fun _ _ _ _ => r.of_keep rfl (map_setTrial fun _ => rfl)) r

theorem recordS_new (removeOld : Bool) (s : SSt W) (old new : W) : new ∈ (recordS removeOld s old new).tried := by
  unfold recordS
  split <;> exact List.mem_concat_self

/-- whatever `_record_values` removes from the tried list becomes stale -/
theorem recordS_keeps (removeOld : Bool) (s : SSt W) (old new w : W) (h : w ∈ s.tried ∨ w ∈ s.stale) :
    w ∈ (recordS removeOld s old new).tried ∨ w ∈ (recordS removeOld s old new).stale := by
  unfold recordS
  split
  · rcases h with h | h
    · by_cases hw : w = old
      · exact Or.inr (List.mem_append_right _ (List.mem_singleton.mpr hw))
      · exact Or.inl (List.mem_append_left _ (List.mem_filter.mpr ⟨h, decide_eq_true hw⟩))
    · exact Or.inr (List.mem_append_left _ h)
  · exact h.imp_left (List.mem_append_left _)

theorem recorded_syncVals (removeOld : Bool) (o : Oracle W (SSt W)) (id : Nat) (v : W) (r : Recorded o) :
    Recorded (syncVals (recordS removeOld) o id v) := by
  unfold syncVals
  split
  · exact r
  · next t0 _ =>
    intro i t' ht'
    show t'.vals ∈ (recordS removeOld o.alg t0.vals v).tried ∨ t'.vals ∈ (recordS removeOld o.alg t0.vals v).stale
    rw [getElem?_setTrial] at ht'
    split at ht'
    · obtain ⟨t, _, rfl⟩ := Option.map_eq_some_iff.mp ht'
      exact Or.inl (recordS_new removeOld o.alg t0.vals v)
    · exact recordS_keeps removeOld o.alg t0.vals v t'.vals (r i t' ht')

theorem fresh_not_tried (cands : Nat → List W) (o : Oracle W (SSt W)) (tuner c : Nat) (v : W)
    (hnew : (create (algS cands) o tuner c).2 = .trial o.trials.length v) : v ∉ o.alg.tried := by
  obtain ⟨_, _, _, a, hp⟩ := create_fresh (algS cands) o tuner c hnew
  rcases populateS_cases cands (asking o tuner) c with ⟨w, hnt, hw⟩ | hw
  · cases hw.symm.trans hp
    exact hnt
  · cases hw.symm.trans hp

/-- C06 incl. growth: in every state reachable by any request list — tuners reporting arbitrary new values when
    ending trials, old hashes removed or not — a freshly started trial differs from the current values of every
    stored trial, unless it is one of the removed (stale) configurations -/
theorem fresh_differs_unless_stale (removeOld : Bool) (cands : Nat → List W) (o0 : Oracle W (SSt W)) (r0 : Recorded o0)
    (ops : List (GOp W)) (tuner c : Nat) (v : W)
    (hnew : (create (algS cands) (grun (algS cands) (recordS removeOld) o0 ops) tuner c).2
              = .trial (grun (algS cands) (recordS removeOld) o0 ops).trials.length v)
    (hstale : v ∉ (grun (algS cands) (recordS removeOld) o0 ops).alg.stale) :
    ∀ (i : Nat) (t : Trial W), (grun (algS cands) (recordS removeOld) o0 ops).trials[i]? = some t → t.vals ≠ v :=
  (grun_invariant _ _ (recorded_step cands) (recorded_syncVals removeOld) o0 ops r0).ne_of_not_mem
    (fresh_not_tried cands _ tuner c v hnew) hstale

/-- nothing becomes stale when old hashes are kept (`tune_new_entries = False` on the repaired code) -/
theorem stale_unchanged_not_tuned (cands : Nat → List W) (o : Oracle W (SSt W)) (ops : List (GOp W)) :
    (grun (algS cands) (recordS false) o ops).alg.stale = o.alg.stale := by
  refine grun_invariant (P := fun o' => o'.alg.stale = o.alg.stale) _ _ (fun o' op h => ?_) (fun o' id v h => ?_) o ops rfl
  · -- `populate_space` adds to the tried list only, `onEnd` does nothing
    refine (step_alg_const (·.stale) (algS cands) (fun o c => ?_) (fun _ _ => rfl) o' op).trans h
    rcases populateS_cases cands o c with ⟨v, _, hp⟩ | hp <;>
      exact congrArg (·.1.stale) hp
  · -- re-recording without removal does not touch the stale list
    unfold syncVals
    split <;> exact h

/-- the not-tuned case (F21 repaired): the tried set only grows, so a fresh trial differs from the current
    values of every stored trial, without any side condition -/
theorem fresh_differs_not_tuned (cands : Nat → List W) (o0 : Oracle W (SSt W)) (r0 : Recorded o0) (h0 : o0.alg.stale = [])
    (ops : List (GOp W)) (tuner c : Nat) (v : W)
    (hnew : (create (algS cands) (grun (algS cands) (recordS false) o0 ops) tuner c).2
              = .trial (grun (algS cands) (recordS false) o0 ops).trials.length v) :
    ∀ (i : Nat) (t : Trial W), (grun (algS cands) (recordS false) o0 ops).trials[i]? = some t → t.vals ≠ v := by
  refine fresh_differs_unless_stale false cands o0 r0 ops tuner c v hnew ?_
  rw [stale_unchanged_not_tuned, h0]
  exact List.not_mem_nil

end sampling

/-- tuned growth: a stale configuration — one that leaves unbound an entry of the (grown) space that is active
    under it — is not among the assignments enumerated, hence sampled, from that space -/
theorem stale_not_enumerated (hs : List GridSucc.GHP) (old : GridSucc.Env) (hnd : (GridSucc.names hs).Nodup)
    (hpf : GridSucc.ParentsFirst [] hs) (g : GridSucc.GHP) (hg : g ∈ hs) (hact : GridSucc.active old g = true)
    (hunbound : old.lookup g.name = none) : old ∉ GridSucc.enum hs [] := by
  intro hmem
  obtain ⟨v, _, hv⟩ := (GridSucc.enum_exact_nil hs old hnd hpf hmem g hg).1 hact
  rw [hunbound] at hv; cases hv

/-- tuned growth: trial 0 is started as `1` and ended reporting `10`
    (`init ⟨[], 5, []⟩ none 0 3`: nothing tried or stale, `max_collisions` 5; no trial limit, no retries, `max_consecutive_failed_trials` 3) -/
example :
    let alg := algS (fun _ => [10, 1, 7])
    let o0 : Oracle Nat (SSt Nat) := init ⟨[], 5, []⟩ none 0 3
    let o1 := (create (algS (fun _ => [1])) o0 0 0).1
    let o2 := grun alg (recordS true) o1 [.base (.update 0 (some 3)), .endWith 0 10 .completed]
    o2.alg.tried = [10] ∧ o2.alg.stale = [1] ∧ (o2.trials.map (·.vals)) = [10] := by
  refine ⟨?_, ?_, ?_⟩ <;> decide

/-- the unrepaired rule (old hash removed although new entries are not tuned): the stale configuration `1` is what
    the unchanged space yields again — trial 1 starts the configuration trial 0 was started with (defect F21) -/
theorem stale_sampled_again :
    let alg := algS (fun _ => [1, 7])
    let o0 : Oracle Nat (SSt Nat) := init ⟨[], 5, []⟩ none 0 3
    let o1 := (create alg o0 0 0).1
    let o2 := grun alg (recordS true) o1 [.base (.update 0 (some 3)), .endWith 0 10 .completed]
    (match (create alg o1 1 0).2 with | .trial _ v => v | _ => 0) = 7 ∧      -- while trial 0 holds `1`, a fresh trial gets `7`
    (match (create alg o2 0 0).2 with | .trial _ v => v | _ => 0) = 1 := by   -- after the removal `1` is started again
  refine ⟨?_, ?_⟩ <;> decide

/-- the repaired rule on the same history: `1` stays tried, the fresh trial gets `7` -/
example :
    let alg := algS (fun _ => [1, 7])
    let o0 : Oracle Nat (SSt Nat) := init ⟨[], 5, []⟩ none 0 3
    let o1 := (create alg o0 0 0).1
    let o2 := grun alg (recordS false) o1 [.base (.update 0 (some 3)), .endWith 0 10 .completed]
    (match (create alg o2 0 0).2 with | .trial _ v => v | _ => 0) = 7 ∧ o2.alg.tried = [1, 10] := by
  refine ⟨?_, ?_⟩ <;> decide

end Growth
#print axioms Growth.fresh_differs_unless_stale
#print axioms Growth.fresh_differs_not_tuned
#print axioms Growth.stale_not_enumerated
#print axioms Growth.inv_greachable
