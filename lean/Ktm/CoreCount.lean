import Ktm.CoreInv
/-! C11: a bound on the number of trial runs. Every RUNNING answer to a tuner that holds nothing ("issuance")
    is paid for by the potential `psi` = Σ over trials of (finished runs + 1 if currently handed out); a trial
    never accumulates more than `maxRetries + 1` of it. Hence, for every request list, every algorithm and
    every outcome pattern: issuances ≤ (number of distinct trials) · (maxRetries + 1). -/
namespace Core
variable {V A : Type}

def runsOf (o : Oracle V A) (i : Nat) : Nat := match o.trials[i]? with | some t => t.runs | none => 0
def out1 (o : Oracle V A) (i : Nat) : Nat := if i ∈ o.ongoing.map (·.2) then 1 else 0
def wOf (o : Oracle V A) (i : Nat) : Nat := runsOf o i + out1 o i
def psi (o : Oracle V A) : Nat := ((List.range o.trials.length).map (wOf o)).sum

theorem sum_range_succ (f : Nat → Nat) (n : Nat) :
    ((List.range (n + 1)).map f).sum = ((List.range n).map f).sum + f n := by
  rw [List.range_succ, List.map_append, List.sum_append_nat, List.map_singleton, List.sum_singleton]

theorem sum_range_congr {n : Nat} {f g : Nat → Nat} (h : ∀ i, i < n → g i = f i) :
    ((List.range n).map g).sum = ((List.range n).map f).sum :=
  congrArg List.sum (List.map_congr_left fun i hi => h i (List.mem_range.mp hi))

theorem sum_range_bump {n : Nat} {f g : Nat → Nat} {j δ : Nat} (hj : j < n)
    (hne : ∀ i, i < n → i ≠ j → g i = f i) (hjv : g j = f j + δ) :
    ((List.range n).map g).sum = ((List.range n).map f).sum + δ := by
  induction n with
  | zero => exact absurd hj (Nat.not_lt_zero j)
  | succ n ih =>
    rw [sum_range_succ, sum_range_succ]
    rcases Nat.lt_succ_iff_lt_or_eq.mp hj with hjn | rfl
    · rw [ih hjn (fun i hi => hne i (Nat.lt_succ_of_lt hi)), hne n (Nat.lt_succ_self n) (Nat.ne_of_gt hjn),
        Nat.add_right_comm]
    · rw [sum_range_congr (fun i hi => hne i (Nat.lt_succ_of_lt hi) (Nat.ne_of_lt hi)), hjv, Nat.add_assoc]

theorem sum_range_le {n : Nat} {f : Nat → Nat} {b : Nat} (h : ∀ i, i < n → f i ≤ b) :
    ((List.range n).map f).sum ≤ n * b := by
  induction n with
  | zero => simp
  | succ n ih =>
    rw [sum_range_succ, Nat.succ_mul]
    exact Nat.add_le_add (ih (fun i hi => h i (Nat.lt_succ_of_lt hi))) (h n (Nat.lt_succ_self n))

def KInv (o : Oracle V A) : Prop :=
  ∀ (i : Nat) (t : Trial V), o.trials[i]? = some t →
    t.runs + (if i ∈ o.ongoing.map (·.2) ∨ i ∈ o.retryQ then 1 else 0) ≤ o.maxRetries + 1

theorem psi_le (o : Oracle V A) (k : KInv o) : psi o ≤ o.trials.length * (o.maxRetries + 1) := by
  refine sum_range_le fun i hi => ?_
  have ht : o.trials[i]? = some (o.trials[i]'hi) := List.getElem?_eq_getElem hi
  -- a trial handed out is one of those for which `KInv` counts one more
  have hout : out1 o i ≤ if i ∈ o.ongoing.map (·.2) ∨ i ∈ o.retryQ then 1 else 0 := by
    unfold out1
    split
    · next h => rw [if_pos (Or.inl h)]; exact Nat.le_refl 1
    · exact Nat.zero_le _
  rw [wOf, runsOf, ht]
  exact Nat.le_trans (Nat.add_le_add_left hout _) (k i _ ht)

def issuedStep (alg : Alg V A) (o : Oracle V A) (op : Op) : Nat :=
  match op, (step alg o op).2 with
  | .create t _, .trial _ _ => if (holds o t).isSome then 0 else 1
  | _, _ => 0

/-- number of RUNNING answers given to tuners that were not already holding a trial -/
def issuedBy (alg : Alg V A) : Oracle V A → List Op → Nat
  | _, [] => 0
  | o, op :: ops =>
    issuedStep alg o op + (match (step alg o op).2 with | .abort => 0 | _ => issuedBy alg (step alg o op).1 ops)

theorem issuedBy_cons_abort (alg : Alg V A) (o : Oracle V A) (op : Op) (ops : List Op) (h : (step alg o op).2 = .abort) :
    issuedBy alg o (op :: ops) = issuedStep alg o op := by
  simp only [issuedBy, h, Nat.add_zero]

theorem issuedBy_cons_of_ne (alg : Alg V A) (o : Oracle V A) (op : Op) (ops : List Op) (h : (step alg o op).2 ≠ .abort) :
    issuedBy alg o (op :: ops) = issuedStep alg o op + issuedBy alg (step alg o op).1 ops := by
  -- `simp` discharges the side condition of `issuedBy`'s second equation with `h`
  simp only [issuedBy]

theorem issuedStep_create_held (alg : Alg V A) (o : Oracle V A) (t c : Nat)
    (h : ∀ id v, (create alg o t c).2 = .trial id v → holds o t = some id) : issuedStep alg o (.create t c) = 0 := by
  cases hout : (create alg o t c).2 with
  | trial id v => simp only [issuedStep, step, hout, h id v hout, Option.isSome_some, if_true]
  | idle | stopped | ok | bad | abort => simp only [issuedStep, step, hout]

theorem issuedStep_create_new (alg : Alg V A) (o : Oracle V A) (t c : Nat) {id : Nat} {v : V}
    (hh : holds o t = none) (h : (create alg o t c).2 = .trial id v) : issuedStep alg o (.create t c) = 1 := by
  simp only [issuedStep, step, h, hh]
  rfl

theorem wOf_touch {o o' : Oracle V A} {id : Nat} (ht : Touch o o' id) {i : Nat} (hi : i ≠ id) : wOf o' i = wOf o i := by
  simp only [wOf, runsOf, out1, ht.trials i hi, ht.ongoing i hi]

theorem psi_touch {o o' : Oracle V A} {id : Nat} (ht : Touch o o' id) (hlen : o'.trials.length = o.trials.length)
    {t t' : Trial V} (hold : o.trials[id]? = some t) (hnew : o'.trials[id]? = some t') (δ : Nat)
    (hw : t'.runs + out1 o' id = t.runs + out1 o id + δ) : psi o' = psi o + δ := by
  unfold psi
  rw [hlen]
  refine sum_range_bump (List.lt_length_of_getElem? hold) (fun i _ hi => wOf_touch ht hi) ?_
  simp only [wOf, runsOf, hold, hnew]
  exact hw

theorem psi_touch_new {o o' : Oracle V A} (ht : Touch o o' o.trials.length) (hlen : o'.trials.length = o.trials.length + 1) :
    psi o' = psi o + wOf o' o.trials.length := by
  rw [psi, hlen, sum_range_succ, psi, sum_range_congr (fun i hi => wOf_touch ht (Nat.ne_of_lt hi))]

/-- no other trial may be queued by the touch -/
theorem kinv_touch {o o' : Oracle V A} {id : Nat} (ht : Touch o o' id) (k : KInv o)
    (hq : ∀ i, i ≠ id → i ∈ o'.retryQ → i ∈ o.retryQ) (hmr : o'.maxRetries = o.maxRetries) {t' : Trial V}
    (hnew : o'.trials[id]? = some t')
    (hid : t'.runs + (if id ∈ o'.ongoing.map (·.2) ∨ id ∈ o'.retryQ then 1 else 0) ≤ o.maxRetries + 1) : KInv o' := by
  intro i t hti
  rw [hmr]
  by_cases hi : i = id
  · subst hi
    obtain rfl := Option.some.inj (hnew.symm.trans hti)
    exact hid
  · rw [ht.trials i hi] at hti
    have hk := k i t hti
    by_cases hc : i ∈ o'.ongoing.map (·.2) ∨ i ∈ o'.retryQ
    · have hc' : i ∈ o.ongoing.map (·.2) ∨ i ∈ o.retryQ := hc.imp (ht.ongoing i hi).mp (hq i hi)
      rw [if_pos hc'] at hk
      rwa [if_pos hc]
    · rw [if_neg hc]
      exact Nat.le_trans (Nat.le_add_right _ _) hk

theorem step_account (alg : Alg V A) (o : Oracle V A) (op : Op) (h : Inv o) (k : KInv o)
    (hna : (step alg o op).2 ≠ .abort) :
    KInv (step alg o op).1 ∧ psi (step alg o op).1 = psi o + issuedStep alg o op := by
  -- every case touches one trial: `psi_touch` with δ = 1 (handed out again) or 0 (a report, an end), `psi_touch_new`
  cases op with
  | create tuner c =>
    -- by cases on what `create` returns; the equation `he` says which case `issuedStep` is in
    refine create_cases_coarse alg o tuner c ?same ?retry ?fresh rfl
      (motive := fun x => create alg o tuner c = x → KInv x.1 ∧ psi x.1 = psi o + issuedStep alg o (.create tuner c))
    case same =>
      -- a trial in the answer is the one the tuner holds already
      intro a tids out hout he
      rw [issuedStep_create_held alg o tuner c (fun id v hc => hout id v ((congrArg Prod.snd he).symm.trans hc))]
      exact ⟨k, rfl⟩
    case retry =>
      intro rid t hholds hq htr he
      have hmem : rid ∈ o.retryQ := List.mem_of_getLast? hq
      obtain ⟨htouch, hnew, hon⟩ := touch_reissue o tuner rid htr
      have hk := k rid t htr
      rw [if_pos (Or.inr hmem)] at hk
      rw [issuedStep_create_new alg o tuner c hholds (congrArg Prod.snd he)]
      refine ⟨kinv_touch htouch k (fun i _ hi => List.dropLast_subset _ hi) rfl hnew ?_,
        psi_touch htouch (length_setTrial _ _ _) htr hnew 1 ?_⟩
      · rw [if_pos (Or.inl hon)]
        exact hk
      · rw [out1, out1, if_pos hon, if_neg (h.retry_not_ongoing rid hmem)]
    case fresh =>
      intro a v hholds _ he
      obtain ⟨htouch, hnew, hon, hlen'⟩ := touch_issue o tuner a v
      rw [issuedStep_create_new alg o tuner c hholds (congrArg Prod.snd he)]
      refine ⟨kinv_touch htouch k (fun i _ hi => hi) rfl hnew ?_, ?_⟩
      · rw [if_pos (Or.inl hon)]
        exact Nat.succ_le_succ (Nat.zero_le _)
      · rw [psi_touch_new htouch hlen', wOf, runsOf, hnew, out1, if_pos hon]
  | update id r =>
    refine update_cases o id r (motive := fun x => KInv x.1 ∧ psi x.1 = psi o) ⟨k, rfl⟩ fun t hti => ?_
    have hnew := getElem?_setTrial_of_some (fun t => { t with reports := t.reports ++ [r] }) hti
    exact ⟨kinv_touch (touch_update o id _) k (fun _ _ hi => hi) rfl hnew (k id t hti),
      psi_touch (touch_update o id _) (length_setTrial _ _ _) hti hnew 0 rfl⟩
  | endT id oc =>
    revert hna
    apply endT_cases alg o id oc (motive := fun x => x.2 ≠ .abort → KInv x.1 ∧ psi x.1 = psi o)
    case bad => exact fun _ _ => ⟨k, rfl⟩
    case abort => intros; contradiction
    case settled =>
      intro t d hti hon hspare hfin hna
      obtain ⟨htouch, hnew, hoff, hq⟩ := touch_settle alg o id (t.runs + 1) d hti
      have hkt := k id t hti
      rw [if_pos (Or.inl hon)] at hkt
      refine ⟨kinv_touch htouch k (fun i hi hm => ((hq i).mp hm).resolve_right (fun h1 => hi h1.2)) rfl hnew ?_,
        psi_touch htouch (length_setTrial _ _ _) hti hnew 0 ?_⟩
      · show t.runs + 1 + _ ≤ _
        by_cases hc : id ∈ (settle alg o id (t.runs + 1) d).retryQ
        · -- queued again: `id` was not queued before, so the decision was a retry, made with a run to spare
          have hr : d.retry = true := (((hq id).mp hc).resolve_left (h.ongoing_facts hon).2.1).1
          rw [if_pos (Or.inr hc)]
          exact Nat.succ_le_of_lt (hspare hr)
        · rw [if_neg (fun h => h.elim hoff hc)]
          exact hkt
      · rw [out1, out1, if_neg hoff, if_pos hon]
        rfl

theorem kinv_init (a : A) (m : Option Nat) (r k : Nat) : KInv (init (V := V) a m r k) :=
  fun _ _ h => nomatch h

/-- C11 -/
theorem runs_bounded (alg : Alg V A) (ops : List Op) : ∀ (o : Oracle V A), Inv o → KInv o →
    issuedBy alg o ops + psi o ≤ (run alg o ops).trials.length * (o.maxRetries + 1) := by
  induction ops with
  | nil => exact fun o _ k => by rw [issuedBy, Nat.zero_add]; exact psi_le o k
  | cons op ops ih =>
    intro o h k
    rcases abort_or_ne (step alg o op).2 with hab | hab
    · -- only `end_trial` aborts: it issues nothing and keeps the number of trials
      rw [issuedBy_cons_abort alg o op ops hab, run_cons_abort alg o op ops hab]
      have h0 : issuedStep alg o op = 0 := by
        cases op with
        | create t c => exact absurd hab (create_not_abort alg o t c)
        | update id r => rfl
        | endT id oc => rfl
      rw [h0, Nat.zero_add]
      exact Nat.le_trans (psi_le o k) (Nat.mul_le_mul_right _ (step_length_le alg o op))
    · obtain ⟨k', hpsi⟩ := step_account alg o op h k hab
      have hrest := ih (step alg o op).1 (inv_step alg o op h hab) k'
      rw [(step_limits alg o op).2.1, hpsi] at hrest
      rw [issuedBy_cons_of_ne alg o op ops hab, run_cons alg o op ops hab]
      omega

theorem issuedBy_le (alg : Alg V A) (o : Oracle V A) (h : Inv o) (k : KInv o) (ops : List Op) {N : Nat}
    (hN : (run alg o ops).trials.length ≤ N) : issuedBy alg o ops ≤ N * (o.maxRetries + 1) :=
  Nat.le_trans (Nat.le_trans (Nat.le_add_right _ _) (runs_bounded alg ops o h k)) (Nat.mul_le_mul_right _ hN)

end Core
#print axioms Core.runs_bounded
