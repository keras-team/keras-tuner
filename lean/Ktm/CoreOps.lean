import Ktm.Core
import Ktm.ListLemmas
/-! What the oracle's operations do, the lifecycle invariant not assumed: the states they produce under names of their own,
each differing from the old state in one trial (`Touch`); an equation for every branch of `create`, `update` and `endT` and
a case principle for each. -/
namespace Core
variable {V A : Type}

theorem getElem?_setTrial (ts : List (Trial V)) (i j : Nat) (f : Trial V → Trial V) :
    (setTrial ts i f)[j]? = if i = j then (ts[j]?).map f else ts[j]? :=
  List.getElem?_modify_ite f i ts j

@[simp] theorem length_setTrial (ts : List (Trial V)) (i : Nat) (f : Trial V → Trial V) :
    (setTrial ts i f).length = ts.length :=
  List.length_modify ..

theorem getElem?_setTrial_ne (ts : List (Trial V)) {i j : Nat} (f : Trial V → Trial V) (h : i ≠ j) :
    (setTrial ts i f)[j]? = ts[j]? :=
  List.getElem?_modify_ne f ts h

theorem getElem?_setTrial_self (ts : List (Trial V)) (i : Nat) (f : Trial V → Trial V) :
    (setTrial ts i f)[i]? = (ts[i]?).map f :=
  List.getElem?_modify_eq f i ts

theorem getElem?_setTrial_of_some {ts : List (Trial V)} {i : Nat} {t : Trial V} (f : Trial V → Trial V)
    (h : ts[i]? = some t) : (setTrial ts i f)[i]? = some (f t) :=
  (getElem?_setTrial_self ts i f).trans (congrArg _ h)

theorem map_setTrial {β : Type} {ts : List (Trial V)} {i : Nat} {f : Trial V → Trial V} {g : Trial V → β}
    (h : ∀ t, g (f t) = g t) : (setTrial ts i f).map g = ts.map g :=
  (List.map_modify_comm id g h).trans (List.modify_id ..)

theorem length_lt_of_budgetReached_false {o : Oracle V A} {m : Nat} (hb : budgetReached o = false)
    (hm : o.maxTrials = some m) : o.trials.length < m := by
  rw [budgetReached, hm] at hb
  exact Nat.lt_of_not_le (of_decide_eq_false hb)

theorem mem_addTuner (l : List Nat) (t : Nat) : t ∈ addTuner l t := by
  unfold addTuner
  split
  · next h => simpa using h
  · exact List.mem_concat_self

theorem nodup_addTuner {l : List Nat} (h : l.Nodup) (t : Nat) : (addTuner l t).Nodup := by
  unfold addTuner
  split
  · exact h
  · next hn => exact List.nodup_append_singleton.mpr ⟨h, by simpa using hn⟩

/-- the asking tuner is registered: the state `populate` is shown -/
def asking (o : Oracle V A) (t : Nat) : Oracle V A := { o with tunerIds := addTuner o.tunerIds t }

/-- the last queued trial `id` goes to tuner `t` again -/
def reissue (o : Oracle V A) (t id : Nat) : Oracle V A :=
  { o with trials := setTrial o.trials id (fun t => { t with status := .running }),
           retryQ := o.retryQ.dropLast, ongoing := o.ongoing ++ [(t, id)] }

/-- what `create` makes of the algorithm's answer to tuner `t` -/
def issue (o : Oracle V A) (t : Nat) : A × Pop V → Oracle V A × Out V
  | (a, .run v) =>
    ({ o with alg := a,
              trials := o.trials ++ [{ vals := v, status := .running, runs := 0, score := none, reports := [] }],
              ongoing := o.ongoing ++ [(t, o.trials.length)] }, .trial o.trials.length v)
  | (a, .idle) => ({ o with alg := a }, .idle)
  | (a, .stop) => ({ o with alg := a, tunerIds := o.tunerIds.erase t }, .stopped)

/-- the record of a trial whose run number `runs` ended with decision `d`; queued for retry it starts clean -/
def EndDecision.record (d : EndDecision) (runs : Nat) : Trial V → Trial V :=
  fun t' => { t' with status := d.st, runs := runs, score := d.sc, reports := if d.retry then [] else t'.reports }

/-- the decision `d` carried out for trial `id` when the search goes on -/
def settle (alg : Alg V A) (o : Oracle V A) (id runs : Nat) (d : EndDecision) : Oracle V A :=
  { o with trials := setTrial o.trials id (d.record runs),
           retryQ := if d.retry then o.retryQ ++ [id] else o.retryQ,
           endOrder := if d.retry then o.endOrder else o.endOrder ++ [id],
           ongoing := o.ongoing.filter (fun p => p.2 != id), alg := alg.onEnd o.alg id }

/-- what `endT` does with an ongoing trial once the decision `d` is taken; on abort the trial stays in `ongoing` and the
algorithm is not told -/
def decided (alg : Alg V A) (o : Oracle V A) (id runs : Nat) (d : EndDecision) : Oracle V A × Out V :=
  let o' := settle alg o id runs d
  if d.retry = false ∧ hasStreak o.maxConsec (o'.endOrder.map (statusOf o'.trials)) = true then
    ({ o with trials := o'.trials, endOrder := o'.endOrder, aborted := true }, .abort)
  else (o', .ok)

theorem decided_retry (alg : Alg V A) (o : Oracle V A) (id runs : Nat) {d : EndDecision} (hr : d.retry = true) :
    decided alg o id runs d = (settle alg o id runs d, .ok) := by
  simp only [decided, hr, Bool.true_eq_false, false_and, if_false]

theorem decided_final (alg : Alg V A) (o : Oracle V A) (id runs : Nat) {d : EndDecision} (hr : d.retry = false) :
    decided alg o id runs d =
      if hasStreak o.maxConsec ((o.endOrder ++ [id]).map (statusOf (setTrial o.trials id (d.record runs)))) = true then
        ({ o with trials := setTrial o.trials id (d.record runs), endOrder := o.endOrder ++ [id], aborted := true },
          .abort)
      else (settle alg o id runs d, .ok) := by
  simp only [decided, settle, hr, Bool.false_eq_true, if_false, true_and]

theorem mem_ids_concat {l : List (Nat × Nat)} {tuner i id : Nat} (h : i ≠ id) :
    i ∈ (l ++ [(tuner, id)]).map (·.2) ↔ i ∈ l.map (·.2) := by
  rw [List.map_append, List.mem_append, List.map_singleton, List.mem_singleton]
  exact or_iff_left h

/-- each of the states above differs from `o` in this way (`asking` touches no trial); the trial files and the count of
runs read a state through these two fields alone -/
structure Touch (o o' : Oracle V A) (id : Nat) : Prop where
  trials : ∀ i, i ≠ id → o'.trials[i]? = o.trials[i]?
  ongoing : ∀ i, i ≠ id → (i ∈ o'.ongoing.map (·.2) ↔ i ∈ o.ongoing.map (·.2))

theorem touch_reissue (o : Oracle V A) (t id : Nat) {tr : Trial V} (h : o.trials[id]? = some tr) :
    Touch o (reissue (asking o t) t id) id ∧
    (reissue (asking o t) t id).trials[id]? = some { tr with status := .running } ∧
    id ∈ (reissue (asking o t) t id).ongoing.map (·.2) :=
  ⟨⟨fun _ hi => getElem?_setTrial_ne _ _ (Ne.symm hi), fun _ hi => mem_ids_concat hi⟩,
    getElem?_setTrial_of_some _ h, List.mem_map_of_mem List.mem_concat_self⟩

theorem touch_issue (o : Oracle V A) (t : Nat) (a : A) (v : V) :
    Touch o (issue (asking o t) t (a, .run v)).1 o.trials.length ∧
    (issue (asking o t) t (a, .run v)).1.trials[o.trials.length]? =
      some { vals := v, status := .running, runs := 0, score := none, reports := [] } ∧
    o.trials.length ∈ (issue (asking o t) t (a, .run v)).1.ongoing.map (·.2) ∧
    (issue (asking o t) t (a, .run v)).1.trials.length = o.trials.length + 1 := by
  refine ⟨⟨fun i hi => ?_, fun _ hi => mem_ids_concat hi⟩, List.getElem?_concat_length,
    List.mem_map_of_mem List.mem_concat_self, List.length_append⟩
  show (o.trials ++ [_])[i]? = _
  rcases Nat.lt_or_gt_of_ne hi with h | h
  · exact List.getElem?_append_left h
  · rw [List.getElem?_eq_none (by rw [List.length_append]; exact h), List.getElem?_eq_none (Nat.le_of_lt h)]

theorem touch_update (o : Oracle V A) (id : Nat) (f : Trial V → Trial V) :
    Touch o { o with trials := setTrial o.trials id f } id :=
  ⟨fun _ hi => getElem?_setTrial_ne _ _ (Ne.symm hi), fun _ _ => Iff.rfl⟩

theorem touch_setTrial_filter {o o' : Oracle V A} {id : Nat} {f : Trial V → Trial V}
    (ht : o'.trials = setTrial o.trials id f) (ho : o'.ongoing = o.ongoing.filter (fun p => p.2 != id)) : Touch o o' id :=
  ⟨fun i hi => by rw [ht]; exact getElem?_setTrial_ne _ _ (Ne.symm hi),
   fun i hi => by rw [ho, List.mem_map_filter_ne]; exact and_iff_left hi⟩

theorem touch_settle (alg : Alg V A) (o : Oracle V A) (id runs : Nat) (d : EndDecision) {t : Trial V}
    (h : o.trials[id]? = some t) :
    Touch o (settle alg o id runs d) id ∧
    (settle alg o id runs d).trials[id]? = some (d.record runs t) ∧
    id ∉ (settle alg o id runs d).ongoing.map (·.2) ∧
    ∀ i, i ∈ (settle alg o id runs d).retryQ ↔ i ∈ o.retryQ ∨ (d.retry = true ∧ i = id) := by
  refine ⟨touch_setTrial_filter rfl rfl, getElem?_setTrial_of_some _ h,
    fun hm => (List.mem_map_filter_ne.mp hm).2 rfl, fun i => ?_⟩
  show i ∈ (if d.retry then o.retryQ ++ [id] else o.retryQ) ↔ _
  cases d.retry with
  | true => rw [if_pos rfl, List.mem_append, List.mem_singleton]; exact or_congr_right (by simp)
  | false => rw [if_neg Bool.false_ne_true]; exact (or_iff_left (fun h => Bool.false_ne_true h.1)).symm

section create
variable (alg : Alg V A) (o : Oracle V A) (t c : Nat)

theorem create_held {id : Nat} {tr : Trial V} (hh : holds o t = some id) (ht : o.trials[id]? = some tr) :
    create alg o t c = (o, .trial id tr.vals) := by
  simp only [create, hh, ht]

theorem create_held_bad {id : Nat} (hh : holds o t = some id) (ht : o.trials[id]? = none) :
    create alg o t c = (o, .bad) := by
  simp only [create, hh, ht]

theorem create_retry {id : Nat} {tr : Trial V} (hh : holds o t = none) (hq : o.retryQ.getLast? = some id)
    (ht : o.trials[id]? = some tr) : create alg o t c = (reissue (asking o t) t id, .trial id tr.vals) := by
  simp only [create, hh, hq, ht, reissue, asking]

theorem create_retry_bad {id : Nat} (hh : holds o t = none) (hq : o.retryQ.getLast? = some id)
    (ht : o.trials[id]? = none) : create alg o t c = (asking o t, .bad) := by
  simp only [create, hh, hq, ht, asking]

theorem create_budget (hh : holds o t = none) (hq : o.retryQ = []) (hb : budgetReached o = true) :
    create alg o t c = ({ o with tunerIds := (addTuner o.tunerIds t).erase t }, .stopped) := by
  have hq' : o.retryQ.getLast? = none := by rw [hq]; rfl
  have hb' : budgetReached (asking o t) = true := hb
  simp only [asking] at hb'
  simp only [create, hh, hq', hb', if_true]

theorem create_ask (hh : holds o t = none) (hq : o.retryQ = []) (hb : budgetReached o = false) :
    create alg o t c = issue (asking o t) t (alg.populate (asking o t) c) := by
  have hq' : o.retryQ.getLast? = none := by rw [hq]; rfl
  have hb' : budgetReached (asking o t) = false := hb
  simp only [asking] at hb' ⊢
  simp only [create, hh, hq', hb', Bool.false_eq_true, if_false]
  cases alg.populate { o with tunerIds := addTuner o.tunerIds t } c with
  | mk a p => cases p <;> rfl

/-- the two `bad` answers (a held or queued id without a record) do not occur under `Inv` -/
theorem create_cases {motive : Oracle V A × Out V → Prop}
    (held : ∀ id tr, holds o t = some id → o.trials[id]? = some tr → motive (o, .trial id tr.vals))
    (retry : ∀ id tr, holds o t = none → o.retryQ.getLast? = some id → o.trials[id]? = some tr →
      motive (reissue (asking o t) t id, .trial id tr.vals))
    (heldBad : ∀ id, holds o t = some id → o.trials[id]? = none → motive (o, .bad))
    (retryBad : ∀ id, holds o t = none → o.retryQ.getLast? = some id → o.trials[id]? = none →
      motive (asking o t, .bad))
    (budget : holds o t = none → o.retryQ = [] → budgetReached o = true →
      motive ({ o with tunerIds := (addTuner o.tunerIds t).erase t }, .stopped))
    (run : ∀ a v, holds o t = none → o.retryQ = [] → budgetReached o = false →
      alg.populate (asking o t) c = (a, .run v) → motive (issue (asking o t) t (a, .run v)))
    (idle : ∀ a, holds o t = none → o.retryQ = [] → budgetReached o = false →
      alg.populate (asking o t) c = (a, .idle) → motive (issue (asking o t) t (a, .idle)))
    (stop : ∀ a, holds o t = none → o.retryQ = [] → budgetReached o = false →
      alg.populate (asking o t) c = (a, .stop) → motive (issue (asking o t) t (a, .stop))) :
    motive (create alg o t c) := by
  cases hh : holds o t with
  | some id =>
    cases ht : o.trials[id]? with
    | some tr => rw [create_held alg o t c hh ht]; exact held id tr hh ht
    | none => rw [create_held_bad alg o t c hh ht]; exact heldBad id hh ht
  | none =>
    cases hq : o.retryQ.getLast? with
    | some id =>
      cases ht : o.trials[id]? with
      | some tr => rw [create_retry alg o t c hh hq ht]; exact retry id tr hh hq ht
      | none => rw [create_retry_bad alg o t c hh hq ht]; exact retryBad id hh hq ht
    | none =>
      have hq := List.getLast?_eq_none_iff.mp hq
      cases hb : budgetReached o with
      | true => rw [create_budget alg o t c hh hq hb]; exact budget hh hq hb
      | false =>
        rw [create_ask alg o t c hh hq hb]
        cases hp : alg.populate (asking o t) c with
        | mk a p =>
          cases p with
          | run v => exact run a v hh hq hb hp
          | idle => exact idle a hh hq hb hp
          | stop => exact stop a hh hq hb hp

/-- `create_cases` with the four answers that change `tunerIds` at most merged into `same` and the three answers of the
algorithm left unsplit (`ask`) -/
theorem create_cases_ask {motive : Oracle V A × Out V → Prop}
    (same : ∀ tids out, (∀ id v, out = .trial id v → holds o t = some id) → motive ({ o with tunerIds := tids }, out))
    (retry : ∀ id tr, holds o t = none → o.retryQ.getLast? = some id → o.trials[id]? = some tr →
      motive (reissue (asking o t) t id, .trial id tr.vals))
    (ask : holds o t = none → o.retryQ = [] → budgetReached o = false →
      motive (issue (asking o t) t (alg.populate (asking o t) c))) :
    motive (create alg o t c) := by
  apply create_cases alg o t c (retry := retry)
  case held => exact fun _ _ hh _ => same o.tunerIds _ (fun _ _ e => by cases e; exact hh)
  case heldBad => exact fun _ _ _ => same o.tunerIds _ nofun
  case retryBad => exact fun _ _ _ _ => same _ _ nofun
  case budget => exact fun _ _ _ => same _ _ nofun
  case run => exact fun _ _ hh hq hb hp => hp ▸ ask hh hq hb
  case idle => exact fun _ hh hq hb hp => hp ▸ ask hh hq hb
  case stop => exact fun _ hh hq hb hp => hp ▸ ask hh hq hb

/-- `create_cases_ask` with the algorithm's answer split: `idle` and `stop` join `same` (six answers that change `alg` and
`tunerIds` at most); `fresh`, the answer `run v`, is asked of any `a`, `v`, not of `populate`'s only -/
theorem create_cases_coarse {motive : Oracle V A × Out V → Prop}
    (same : ∀ a tids out, (∀ id v, out = .trial id v → holds o t = some id) →
      motive ({ o with alg := a, tunerIds := tids }, out))
    (retry : ∀ id tr, holds o t = none → o.retryQ.getLast? = some id → o.trials[id]? = some tr →
      motive (reissue (asking o t) t id, .trial id tr.vals))
    (fresh : ∀ a v, holds o t = none → budgetReached o = false → motive (issue (asking o t) t (a, .run v))) :
    motive (create alg o t c) := by
  refine create_cases_ask alg o t c (same o.alg) retry fun hh _ hb => ?_
  cases alg.populate (asking o t) c with
  | mk a p =>
    cases p with
    | run v => exact fresh a v hh hb
    | idle => exact same a _ _ nofun
    | stop => exact same a _ _ nofun

theorem create_eq_trial {id : Nat} {v : V} (h : (create alg o t c).2 = .trial id v) :
    (holds o t = some id ∧ ∃ tr, o.trials[id]? = some tr ∧ tr.vals = v) ∨
    (holds o t = none ∧ o.retryQ.getLast? = some id ∧ ∃ tr, o.trials[id]? = some tr ∧ tr.vals = v) ∨
    (holds o t = none ∧ o.retryQ = [] ∧ budgetReached o = false ∧ id = o.trials.length ∧
      ∃ a, alg.populate (asking o t) c = (a, .run v)) := by
  revert h
  refine create_cases alg o t c (motive := fun r => r.2 = .trial id v → _) ?held ?retry ?heldBad ?retryBad ?budget ?run ?idle ?stop
  case held =>
    intro id' tr hh ht e
    cases e
    exact .inl ⟨hh, tr, ht, rfl⟩
  case retry =>
    intro id' tr hh hq ht e
    cases e
    exact .inr (.inl ⟨hh, hq, tr, ht, rfl⟩)
  case run =>
    intro a v' hh hq hb hp e
    cases e
    exact .inr (.inr ⟨hh, hq, hb, rfl, a, hp⟩)
  case heldBad | retryBad | budget | idle | stop => intros; contradiction

theorem create_fresh {v : V} (h : (create alg o t c).2 = .trial o.trials.length v) :
    holds o t = none ∧ o.retryQ = [] ∧ budgetReached o = false ∧ ∃ a, alg.populate (asking o t) c = (a, .run v) := by
  -- a trial that is stored already has a smaller id
  have old : ∀ tr, o.trials[o.trials.length]? ≠ some tr := fun tr ht =>
    Nat.lt_irrefl _ (List.lt_length_of_getElem? ht)
  rcases create_eq_trial alg o t c h with ⟨_, tr, ht, _⟩ | ⟨_, _, tr, ht, _⟩ | ⟨hh, hq, hb, _, ha⟩
  · exact absurd ht (old tr)
  · exact absurd ht (old tr)
  · exact ⟨hh, hq, hb, ha⟩

theorem create_eq_idle (h : (create alg o t c).2 = .idle) : ∃ a, alg.populate (asking o t) c = (a, .idle) := by
  revert h
  refine create_cases alg o t c (motive := fun r => r.2 = .idle → _) ?held ?retry ?heldBad ?retryBad ?budget ?run ?idle ?stop
  case idle => exact fun a _ _ _ hp _ => ⟨a, hp⟩
  case held | retry | heldBad | retryBad | budget | run | stop => intros; contradiction

theorem create_eq_stopped (h : (create alg o t c).2 = .stopped) :
    holds o t = none ∧ o.retryQ = [] ∧
      (budgetReached o = true ∨ ∃ a, alg.populate (asking o t) c = (a, .stop)) := by
  revert h
  refine create_cases alg o t c (motive := fun r => r.2 = .stopped → _) ?held ?retry ?heldBad ?retryBad ?budget ?run ?idle ?stop
  case budget => exact fun hh hq hb _ => ⟨hh, hq, .inl hb⟩
  case stop => exact fun a hh hq _ hp _ => ⟨hh, hq, .inr ⟨a, hp⟩⟩
  case held | retry | heldBad | retryBad | run | idle => intros; contradiction

theorem create_tunerIds (hh : holds o t = none) :
    (create alg o t c).1.tunerIds =
      match (create alg o t c).2 with
      | .stopped => (addTuner o.tunerIds t).erase t
      | _ => addTuner o.tunerIds t := by
  apply create_cases alg o t c (motive := fun r => r.1.tunerIds = match r.2 with
      | .stopped => (addTuner o.tunerIds t).erase t
      | _ => addTuner o.tunerIds t)
  case held => exact fun _ _ hh' => nomatch hh.symm.trans hh'
  case heldBad => exact fun _ hh' => nomatch hh.symm.trans hh'
  case retry | retryBad | budget | run | idle | stop => intros; rfl

end create

theorem update_some (o : Oracle V A) (id : Nat) (r : Option Int) {t : Trial V} (ht : o.trials[id]? = some t) :
    update o id r = ({ o with trials := setTrial o.trials id (fun t => { t with reports := t.reports ++ [r] }) }, .ok) := by
  simp only [update, ht]

theorem update_none (o : Oracle V A) (id : Nat) (r : Option Int) (ht : o.trials[id]? = none) :
    update o id r = (o, .bad) := by
  simp only [update, ht]

theorem update_cases {motive : Oracle V A × Out V → Prop} (o : Oracle V A) (id : Nat) (r : Option Int)
    (bad : motive (o, .bad))
    (ok : ∀ t, o.trials[id]? = some t →
      motive ({ o with trials := setTrial o.trials id (fun t => { t with reports := t.reports ++ [r] }) }, .ok)) :
    motive (update o id r) := by
  cases ht : o.trials[id]? with
  | none => rw [update_none o id r ht]; exact bad
  | some t => rw [update_some o id r ht]; exact ok t ht

theorem isOngoing_iff (o : Oracle V A) (id : Nat) : isOngoing o id = true ↔ id ∈ o.ongoing.map (·.2) := by
  simp only [isOngoing, List.any_eq_true, List.mem_map, beq_iff_eq]

theorem mem_ongoing_of_holds {o : Oracle V A} {w id : Nat} (h : holds o w = some id) : id ∈ o.ongoing.map (·.2) :=
  List.mem_map_of_mem (List.mem_of_lookup_eq_some h)

section endT
variable (alg : Alg V A) (o : Oracle V A) (id : Nat) (oc : Outcome)

theorem endT_bad (h : o.trials[id]? = none ∨ isOngoing o id = false) : endT alg o id oc = (o, .bad) := by
  unfold endT
  cases ht : o.trials[id]? with
  | none => rfl
  | some t =>
    have hon : isOngoing o id = false := h.resolve_left (by rw [ht]; exact Option.some_ne_none t)
    simp only [hon, Bool.not_false, if_true]

theorem endT_decided {t : Trial V} (ht : o.trials[id]? = some t) (hon : isOngoing o id = true) :
    endT alg o id oc = decided alg o id (t.runs + 1) (endDecision alg o.maxRetries t oc) := by
  unfold decided settle EndDecision.record
  cases hr : (endDecision alg o.maxRetries t oc).retry with
  | true =>
    simp only [endT, ht, hon, hr, Bool.not_true, Bool.false_eq_true, Bool.true_eq_false, false_and, if_false, if_true]
  | false =>
    simp only [endT, ht, hon, hr, Bool.not_true, Bool.false_eq_true, true_and, if_false]

/-- `t` is the record of the trial; the decision `d` is a variable, of which the hypotheses of a case say all that is known -/
theorem endT_cases {motive : Oracle V A × Out V → Prop}
    (bad : (o.trials[id]? = none ∨ isOngoing o id = false) → motive (o, .bad))
    (abort : ∀ t (d : EndDecision), o.trials[id]? = some t → id ∈ o.ongoing.map (·.2) → d.retry = false →
      hasStreak o.maxConsec ((o.endOrder ++ [id]).map (statusOf (setTrial o.trials id (d.record (t.runs + 1))))) = true →
      motive ({ o with trials := setTrial o.trials id (d.record (t.runs + 1)), endOrder := o.endOrder ++ [id],
                       aborted := true }, .abort))
    (settled : ∀ t (d : EndDecision), o.trials[id]? = some t → id ∈ o.ongoing.map (·.2) →
      (d.retry = true → t.runs + 1 < o.maxRetries + 1) →
      (d.retry = false → ((d.st = .completed ∧ d.sc.isSome) ∨ d.st = .failed) ∧
        hasStreak o.maxConsec ((o.endOrder ++ [id]).map (statusOf (setTrial o.trials id (d.record (t.runs + 1))))) = false) →
      motive (settle alg o id (t.runs + 1) d, .ok)) :
    motive (endT alg o id oc) := by
  cases ht : o.trials[id]? with
  | none => rw [endT_bad alg o id oc (Or.inl ht)]; exact bad (Or.inl ht)
  | some t =>
    cases hon : isOngoing o id with
    | false => rw [endT_bad alg o id oc (Or.inr hon)]; exact bad (Or.inr hon)
    | true =>
      have hmem := (isOngoing_iff o id).mp hon
      rw [endT_decided alg o id oc ht hon]
      have hspare := endDecision_retry alg o.maxRetries t (oc := oc)
      obtain ⟨_, hfin, hsc⟩ := endDecision_spec alg o.maxRetries t oc
      generalize endDecision alg o.maxRetries t oc = d at hspare hfin hsc ⊢
      cases hr : d.retry with
      | true =>
        rw [decided_retry alg o id _ hr]
        exact settled t d ht hmem hspare (fun hf => nomatch hr.symm.trans hf)
      | false =>
        rw [decided_final alg o id _ hr]
        split
        · next hs => exact abort t d ht hmem hr hs
        · next hs =>
          exact settled t d ht hmem (fun h => nomatch hr.symm.trans h) fun _ =>
            ⟨(hfin hr).elim (fun hc => .inl ⟨hc, hsc hc⟩) .inr, Bool.eq_false_iff.mpr hs⟩

end endT

theorem step_limits (alg : Alg V A) (o : Oracle V A) (op : Op) :
    (step alg o op).1.maxTrials = o.maxTrials ∧ (step alg o op).1.maxRetries = o.maxRetries ∧
    (step alg o op).1.maxConsec = o.maxConsec := by
  cases op with
  | create t c =>
    apply create_cases_coarse alg o t c (motive := fun r => r.1.maxTrials = _ ∧ r.1.maxRetries = _ ∧ r.1.maxConsec = _)
    all_goals intros; exact ⟨rfl, rfl, rfl⟩
  | update id r =>
    apply update_cases o id r (motive := fun r => r.1.maxTrials = _ ∧ r.1.maxRetries = _ ∧ r.1.maxConsec = _)
    all_goals intros; exact ⟨rfl, rfl, rfl⟩
  | endT id oc =>
    apply endT_cases alg o id oc (motive := fun r => r.1.maxTrials = _ ∧ r.1.maxRetries = _ ∧ r.1.maxConsec = _)
    all_goals intros; exact ⟨rfl, rfl, rfl⟩

/-- the number of trials the answer adds -/
def Pop.len : Pop V → Nat
  | .run _ => 1
  | _ => 0

theorem issue_alg_length (o : Oracle V A) (t : Nat) (p : A × Pop V) :
    (issue o t p).1.alg = p.1 ∧ (issue o t p).1.trials.length = o.trials.length + p.2.len := by
  obtain ⟨a, p⟩ := p
  cases p
  · exact ⟨rfl, List.length_append⟩
  · exact ⟨rfl, rfl⟩
  · exact ⟨rfl, rfl⟩

/-- what an algorithm can notice of one request: nothing, the end of one trial, or its own answer to one `populate`
(which alone can add a trial) -/
theorem step_alg (alg : Alg V A) (o : Oracle V A) (op : Op) :
    ((step alg o op).1.alg = o.alg ∧ (step alg o op).1.trials.length = o.trials.length) ∨
    (∃ id, (step alg o op).1.alg = alg.onEnd o.alg id ∧ (step alg o op).1.trials.length = o.trials.length) ∨
    ∃ t c, (step alg o op).1.alg = (alg.populate (asking o t) c).1 ∧
      (step alg o op).1.trials.length = o.trials.length + (alg.populate (asking o t) c).2.len ∧
      budgetReached o = false := by
  cases op with
  | create t c =>
    apply create_cases_ask alg o t c (motive := fun r => (r.1.alg = o.alg ∧ r.1.trials.length = o.trials.length) ∨ _ ∨
      ∃ t c, r.1.alg = (alg.populate (asking o t) c).1 ∧
        r.1.trials.length = o.trials.length + (alg.populate (asking o t) c).2.len ∧ budgetReached o = false)
    case same => intros; exact .inl ⟨rfl, rfl⟩
    case retry => intros; exact .inl ⟨rfl, length_setTrial ..⟩
    case ask =>
      intro _ _ hb
      obtain ⟨ha, hl⟩ := issue_alg_length (asking o t) t (alg.populate (asking o t) c)
      exact .inr (.inr ⟨t, c, ha, hl, hb⟩)
  | update id r =>
    exact .inl (update_cases o id r (motive := fun r => r.1.alg = o.alg ∧ r.1.trials.length = o.trials.length)
      ⟨rfl, rfl⟩ (fun _ _ => ⟨rfl, length_setTrial ..⟩))
  | endT id oc =>
    apply endT_cases alg o id oc (motive := fun r => (r.1.alg = o.alg ∧ r.1.trials.length = o.trials.length) ∨
      (∃ id, r.1.alg = alg.onEnd o.alg id ∧ r.1.trials.length = o.trials.length) ∨ _)
    case bad => exact fun _ => .inl ⟨rfl, rfl⟩
    case abort => intros; exact .inl ⟨rfl, length_setTrial ..⟩
    case settled => intros; exact .inr (.inl ⟨id, rfl, length_setTrial ..⟩)

/-- for an invariant on the algorithm state and the number of trials alone (on more of the oracle: `step_keeps`) -/
theorem step_preserves {P : A → Nat → Prop} (alg : Alg V A)
    (hpop : ∀ o c, P o.alg o.trials.length → P (alg.populate o c).1 (o.trials.length + (alg.populate o c).2.len))
    (hend : ∀ a n id, P a n → P (alg.onEnd a id) n)
    (o : Oracle V A) (op : Op) (h : P o.alg o.trials.length) :
    P (step alg o op).1.alg (step alg o op).1.trials.length := by
  rcases step_alg alg o op with ⟨ha, hl⟩ | ⟨id, ha, hl⟩ | ⟨t, c, ha, hl, _⟩ <;> rw [ha, hl]
  · exact h
  · exact hend _ _ id h
  · exact hpop (asking o t) c h

theorem step_alg_const {β : Type} (φ : A → β) (alg : Alg V A) (hpop : ∀ o c, φ (alg.populate o c).1 = φ o.alg)
    (hend : ∀ a id, φ (alg.onEnd a id) = φ a) (o : Oracle V A) (op : Op) : φ (step alg o op).1.alg = φ o.alg :=
  step_preserves (P := fun a _ => φ a = φ o.alg) alg (fun o' c h => (hpop o' c).trans h)
    (fun a _ id h => (hend a id).trans h) o op rfl

theorem step_length (alg : Alg V A) (o : Oracle V A) (op : Op) :
    (step alg o op).1.trials.length = o.trials.length ∨
    ((step alg o op).1.trials.length = o.trials.length + 1 ∧ budgetReached o = false) := by
  rcases step_alg alg o op with ⟨_, hl⟩ | ⟨_, _, hl⟩ | ⟨t, c, _, hl, hb⟩
  · exact .inl hl
  · exact .inl hl
  · rw [hl]
    cases (alg.populate (asking o t) c).2
    · exact .inr ⟨rfl, hb⟩
    · exact .inl rfl
    · exact .inl rfl

theorem step_length_le (alg : Alg V A) (o : Oracle V A) (op : Op) : o.trials.length ≤ (step alg o op).1.trials.length := by
  rcases step_length alg o op with h | h
  · exact Nat.le_of_eq h.symm
  · rw [h.1]
    exact Nat.le_succ _

/-- the list grows only when `budgetReached` said no -/
theorem step_budget (alg : Alg V A) (o : Oracle V A) (op : Op) {m : Nat} (hm : o.maxTrials = some m)
    (hle : o.trials.length ≤ m) : (step alg o op).1.maxTrials = some m ∧ (step alg o op).1.trials.length ≤ m := by
  refine ⟨(step_limits alg o op).1.trans hm, ?_⟩
  rcases step_length alg o op with h | ⟨h, hb⟩
  · rw [h]; exact hle
  · rw [h]; exact length_lt_of_budgetReached_false hb hm

/-- an invariant `X` of an algorithm reads the oracle, typically, through the algorithm state, the values of the stored
trials and the ids in `ongoing` (`keep`). Every request keeps such an `X` if carrying out the algorithm's answer
(`issue`) and the end of a trial (`settle`) do. -/
theorem step_keeps {X : Oracle V A → Prop}
    (keep : ∀ {o o' : Oracle V A}, X o → o'.alg = o.alg → o'.trials.map (·.vals) = o.trials.map (·.vals) →
      (∀ i ∈ o.ongoing.map (·.2), i ∈ o'.ongoing.map (·.2)) → X o')
    (alg : Alg V A) (o : Oracle V A) (op : Op)
    (hissue : ∀ t c, X (asking o t) → X (issue (asking o t) t (alg.populate (asking o t) c)).1)
    (hsettle : ∀ id t d, o.trials[id]? = some t → X (settle alg o id (t.runs + 1) d)) (h : X o) :
    X (step alg o op).1 := by
  have same : ∀ tids, X { o with tunerIds := tids } := fun _ => keep h rfl rfl (fun _ hi => hi)
  cases op with
  | create t c =>
    apply create_cases_ask alg o t c (motive := fun r => X r.1)
    case same => exact fun tids _ _ => same tids
    case retry =>
      intro rid _ _ _ _
      refine keep h rfl (map_setTrial fun _ => rfl) fun i hi => ?_
      show i ∈ (o.ongoing ++ [(t, rid)]).map (·.2)
      rw [List.map_append]
      exact List.mem_append_left _ hi
    case ask => exact fun _ _ _ => hissue t c (same _)
  | update id r =>
    exact update_cases o id r (motive := fun r => X r.1) h
      (fun _ _ => keep h rfl (map_setTrial fun _ => rfl) (fun _ hi => hi))
  | endT id oc =>
    apply endT_cases alg o id oc (motive := fun r => X r.1)
    case bad => exact fun _ => h
    case abort => intros; exact keep h rfl (map_setTrial fun _ => rfl) (fun _ hi => hi)
    case settled => exact fun t d ht _ _ _ => hsettle id t d ht

theorem create_not_abort (alg : Alg V A) (o : Oracle V A) (t c : Nat) : (create alg o t c).2 ≠ .abort := by
  apply create_cases alg o t c (motive := fun r => r.2 ≠ .abort)
  all_goals intros; exact nofun

theorem update_not_abort (o : Oracle V A) (id : Nat) (r : Option Int) : (update o id r).2 ≠ (.abort : Out V) := by
  apply update_cases o id r (motive := fun r => r.2 ≠ .abort)
  all_goals intros; exact nofun

theorem step_abort (alg : Alg V A) (o : Oracle V A) (op : Op) (h : (step alg o op).2 = .abort) :
    (step alg o op).1.aborted = true := by
  cases op with
  | create t c => exact absurd h (create_not_abort alg o t c)
  | update id r => exact absurd h (update_not_abort o id r)
  | endT id oc =>
    revert h
    apply endT_cases alg o id oc (motive := fun r => r.2 = .abort → r.1.aborted = true)
    case abort => intros; rfl
    case bad | settled => intros; contradiction

/-- C03, one direction: an aborting call has completed a streak (the converse, `Props.C03.abort_iff`, needs `Inv`) -/
theorem abort_iff_streak (alg : Alg V A) (o : Oracle V A) (id : Nat) (oc : Outcome) :
    (endT alg o id oc).2 = .abort →
      hasStreak o.maxConsec ((endT alg o id oc).1.endOrder.map (statusOf (endT alg o id oc).1.trials)) = true := by
  apply endT_cases alg o id oc
    (motive := fun r => r.2 = .abort → hasStreak o.maxConsec (r.1.endOrder.map (statusOf r.1.trials)) = true)
  case abort => intros; assumption
  case bad | settled => intros; contradiction

theorem abort_or_ne (x : Out V) : x = .abort ∨ x ≠ .abort := by
  cases x with
  | abort => exact .inl rfl
  | _ => exact .inr nofun

theorem run_cons_abort (alg : Alg V A) (o : Oracle V A) (op : Op) (ops : List Op) (h : (step alg o op).2 = .abort) :
    run alg o (op :: ops) = (step alg o op).1 := by
  simp only [run, h]

theorem run_cons (alg : Alg V A) (o : Oracle V A) (op : Op) (ops : List Op) (h : (step alg o op).2 ≠ .abort) :
    run alg o (op :: ops) = run alg (step alg o op).1 ops := by
  -- `simp` discharges the side condition of `run`'s second equation with `h`
  simp only [run]

theorem run_induction {P Q : Oracle V A → Prop} (alg : Alg V A)
    (hstep : ∀ o op, P o → (step alg o op).2 ≠ .abort → P (step alg o op).1)
    (habort : ∀ o op, P o → (step alg o op).2 = .abort → Q (step alg o op).1)
    (o : Oracle V A) (ops : List Op) (h : P o) : P (run alg o ops) ∨ Q (run alg o ops) := by
  induction ops generalizing o with
  | nil => exact .inl h
  | cons op ops ih =>
    rcases abort_or_ne (step alg o op).2 with ha | ha
    · rw [run_cons_abort alg o op ops ha]; exact .inr (habort o op h ha)
    · rw [run_cons alg o op ops ha]; exact ih _ (hstep o op h ha)

theorem run_invariant {P : Oracle V A → Prop} (alg : Alg V A) (hstep : ∀ o op, P o → P (step alg o op).1)
    (o : Oracle V A) (ops : List Op) (h : P o) : P (run alg o ops) :=
  (run_induction (Q := P) alg (fun o op h _ => hstep o op h) (fun o op h _ => hstep o op h) o ops h).elim id id

theorem run_preserves {P : A → Nat → Prop} (alg : Alg V A)
    (hpop : ∀ o c, P o.alg o.trials.length → P (alg.populate o c).1 (o.trials.length + (alg.populate o c).2.len))
    (hend : ∀ a n id, P a n → P (alg.onEnd a id) n)
    (o : Oracle V A) (ops : List Op) (h : P o.alg o.trials.length) :
    P (run alg o ops).alg (run alg o ops).trials.length :=
  run_invariant (P := fun o => P o.alg o.trials.length) alg (step_preserves alg hpop hend) o ops h

theorem run_limits (alg : Alg V A) (o : Oracle V A) (ops : List Op) :
    (run alg o ops).maxTrials = o.maxTrials ∧ (run alg o ops).maxRetries = o.maxRetries ∧
    (run alg o ops).maxConsec = o.maxConsec :=
  run_invariant (P := fun o' => o'.maxTrials = o.maxTrials ∧ o'.maxRetries = o.maxRetries ∧ o'.maxConsec = o.maxConsec) alg
    (fun o' op h => by obtain ⟨a, b, c⟩ := step_limits alg o' op; exact ⟨a.trans h.1, b.trans h.2.1, c.trans h.2.2⟩)
    o ops ⟨rfl, rfl, rfl⟩

theorem run_budget (alg : Alg V A) (o : Oracle V A) (ops : List Op) {m : Nat} (hm : o.maxTrials = some m)
    (hle : o.trials.length ≤ m) : (run alg o ops).maxTrials = some m ∧ (run alg o ops).trials.length ≤ m :=
  run_invariant (P := fun o => o.maxTrials = some m ∧ o.trials.length ≤ m) alg
    (fun o op h => step_budget alg o op h.1 h.2) o ops ⟨hm, hle⟩

end Core
