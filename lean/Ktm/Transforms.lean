/-! C14 in exact arithmetic: a probability is `num/den` with `0 ≤ num < den` (the exact value of a double in [0,1));
    `prob_to_index`, `index_to_prob`, the linear integer lattice, the log lattice, `Boolean`. -/
namespace Transforms

/-- `prob_to_index(prob, n)`: floor(prob * n), clipped to n-1 -/
def probToIndex (num den n : Nat) : Nat := min (num * n / den) (n - 1)

/-- `index_to_prob(i, n)` = (i + 1/2)/n = (2i+1)/(2n) -/
def indexToProbNum (i : Nat) : Nat := 2 * i + 1
def indexToProbDen (n : Nat) : Nat := 2 * n

theorem probToIndex_lt (num den n : Nat) (hn : 0 < n) : probToIndex num den n < n :=
  Nat.lt_of_le_of_lt (Nat.min_le_right _ _) (Nat.sub_one_lt (Nat.ne_of_gt hn))

/-- without the clip: a probability below 1 already lands inside -/
theorem floor_lt (num den n : Nat) (hp : num < den) (hn : 0 < n) : num * n / den < n :=
  Nat.div_lt_of_lt_mul (Nat.mul_lt_mul_of_pos_right hp hn)

theorem index_prob_index (i n : Nat) (hi : i < n) :
    probToIndex (indexToProbNum i) (indexToProbDen n) n = i := by
  unfold probToIndex indexToProbNum indexToProbDen
  -- (2i+1)·n / (2·n) = (2i+1) / 2 = i
  rw [Nat.mul_div_mul_right _ _ (Nat.zero_lt_of_lt hi), Nat.add_comm, Nat.add_mul_div_left _ _ (by decide : 0 < 2), Nat.zero_add]
  exact Nat.min_eq_left (Nat.le_sub_one_of_lt hi)

theorem indexToProb_lt_one (i n : Nat) (hi : i < n) : indexToProbNum i < indexToProbDen n :=
  -- 2i + 1 < 2(i + 1) ≤ 2n
  Nat.lt_of_lt_of_le (Nat.lt_succ_self (2 * i + 1)) (Nat.mul_le_mul_left 2 hi)

/-- `_get_n_values`, and below `_get_value_by_index` and `values`, of `Int(min, max, step)` under linear sampling -/
def nValues (lo hi : Int) (step : Nat) : Nat := ((hi - lo) / step).toNat + 1

def valueByIndex (lo : Int) (step : Nat) (i : Nat) : Int := lo + i * step

def values (lo hi : Int) (step : Nat) : List Int := (List.range (nValues lo hi step)).map (valueByIndex lo step)

theorem lt_nValues_iff (lo hi : Int) (step : Nat) (hs : 0 < step) (hle : lo ≤ hi) (k : Nat) :
    k < nValues lo hi step ↔ lo + k * step ≤ hi := by
  have hstep : (0 : Int) < step := Int.natCast_pos.mpr hs
  have hnn : 0 ≤ (hi - lo) / (step : Int) := Int.ediv_nonneg (Int.sub_nonneg.mpr hle) (Int.le_of_lt hstep)
  unfold nValues
  rw [Nat.lt_succ_iff, ← Int.ofNat_le, Int.toNat_of_nonneg hnn, Int.le_ediv_iff_mul_le hstep, ← Int.add_le_iff_le_sub,
    Int.add_comm]

theorem mem_values (lo hi : Int) (step : Nat) (hs : 0 < step) (hle : lo ≤ hi) (v : Int) :
    v ∈ values lo hi step ↔ lo ≤ v ∧ v ≤ hi ∧ ∃ k : Nat, v = lo + k * step := by
  unfold values valueByIndex
  simp only [List.mem_map, List.mem_range, lt_nValues_iff lo hi step hs hle]
  constructor
  · rintro ⟨k, hk, rfl⟩
    exact ⟨Int.le_add_of_nonneg_right (Int.mul_nonneg (Int.natCast_nonneg k) (Int.natCast_nonneg step)), hk, k, rfl⟩
  · rintro ⟨_, h2, k, rfl⟩
    exact ⟨k, h2, rfl⟩

theorem max_included_iff (lo hi : Int) (step : Nat) (hs : 0 < step) (hle : lo ≤ hi) :
    hi ∈ values lo hi step ↔ ∃ k : Nat, hi = lo + k * step := by
  rw [mem_values lo hi step hs hle]
  exact ⟨fun h => h.2.2, fun h => ⟨hle, Int.le_refl _, h⟩⟩

/-- `_sample_with_step` (`Int`, and `Float` with `step` scaled to integers) -/
def probToValueLin (lo hi : Int) (step : Nat) (num den : Nat) : Int :=
  valueByIndex lo step (probToIndex num den (nValues lo hi step))

/-- the index `_to_prob_with_step` computes from a value: `(value − min) / step` -/
def indexOfLin (lo : Int) (step : Nat) (v : Int) : Nat := ((v - lo) / step).toNat

theorem probToValueLin_mem (lo hi : Int) (step : Nat) (num den : Nat) :
    probToValueLin lo hi step num den ∈ values lo hi step :=
  List.mem_map_of_mem (List.mem_range.mpr (probToIndex_lt _ _ _ (Nat.succ_pos _)))

theorem indexOfLin_valueByIndex (lo : Int) (step : Nat) (hs : 0 < step) (i : Nat) :
    indexOfLin lo step (valueByIndex lo step i) = i := by
  unfold indexOfLin valueByIndex
  rw [Int.add_comm, Int.add_sub_cancel, Int.mul_ediv_cancel _ (Int.ne_of_gt (Int.natCast_pos.mpr hs)), Int.toNat_natCast]

theorem value_prob_value_lin (lo hi : Int) (step : Nat) (hs : 0 < step) (i : Nat) (hi' : i < nValues lo hi step) :
    probToValueLin lo hi step (indexToProbNum (indexOfLin lo step (valueByIndex lo step i)))
      (indexToProbDen (nValues lo hi step)) = valueByIndex lo step i := by
  unfold probToValueLin
  rw [indexOfLin_valueByIndex lo step hs i, index_prob_index i _ hi']

/-! ### log / reverse_log lattice: `min · step^i ≤ max` with `min = a/D`, `max = b/D`, `step = s/t > 1` -/

/-- count the `i` with `a·s^i ≤ b·t^i`, scanning upwards (`_get_n_values` for log sampling) -/
def nLogAux (a b s t : Nat) : Nat → Nat → Nat → Nat → Nat
  | 0, i, _, _ => i
  | fuel + 1, i, ps, pt => if a * ps ≤ b * pt then nLogAux a b s t fuel (i + 1) (ps * s) (pt * t) else i

def nLog (a b s t fuel : Nat) : Nat := nLogAux a b s t fuel 0 1 1

/-- `hlt`: the scan stopped at a test that failed, not for want of fuel -/
theorem nLogAux_spec (a b s t fuel i ps pt n : Nat) (hps : ps = s ^ i) (hpt : pt = t ^ i)
    (h : nLogAux a b s t fuel i ps pt = n) (hlt : n < i + fuel) :
    (∀ j, i ≤ j → j < n → a * s ^ j ≤ b * t ^ j) ∧ ¬ a * s ^ n ≤ b * t ^ n := by
  fun_induction nLogAux a b s t fuel i ps pt with
  | case1 i ps pt =>
    subst h
    exact absurd hlt (Nat.lt_irrefl i)
  | case2 fuel i ps pt hc ih =>
    subst hps hpt
    obtain ⟨h1, h2⟩ := ih (Nat.pow_succ ..).symm (Nat.pow_succ ..).symm h (by rw [Nat.add_assoc, Nat.add_comm 1]; exact hlt)
    refine ⟨fun j hij hj => ?_, h2⟩
    by_cases hji : j = i
    · exact hji ▸ hc
    · exact h1 j (Nat.lt_of_le_of_ne hij (Ne.symm hji)) hj
  | case3 fuel i ps pt hc =>
    subst hps hpt h
    exact ⟨fun j hij hj => absurd hj (Nat.not_lt.mpr hij), hc⟩

theorem nLog_spec (a b s t fuel : Nat) (h : nLog a b s t fuel < fuel) :
    (∀ j, j < nLog a b s t fuel → a * s ^ j ≤ b * t ^ j) ∧ ¬ a * s ^ (nLog a b s t fuel) ≤ b * t ^ (nLog a b s t fuel) := by
  obtain ⟨h1, h2⟩ := nLogAux_spec a b s t fuel 0 1 1 _ rfl rfl rfl ((Nat.zero_add fuel).symm ▸ h)
  exact ⟨fun j hj => h1 j (Nat.zero_le _) hj, h2⟩

/-- `Boolean.prob_to_value (p) = (p ≥ 1/2)`; `value_to_prob` = 3/4 or 1/4 -/
def boolOfProb (num den : Nat) : Bool := decide (den ≤ 2 * num)

end Transforms
#print axioms Transforms.nLog_spec
#print axioms Transforms.value_prob_value_lin
#print axioms Transforms.index_prob_index
#print axioms Transforms.mem_values
