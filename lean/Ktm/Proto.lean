import Ktm.Codec
import Ktm.ListLemmas
/-! C16: the protocol-buffer encoding of hyperparameters, values, search spaces, metric histories and trials, at
    message level. A message is a JSON-like tree (`Codec.J`) in a canonical form the harness derives from the real
    protobuf object field by field; `hpP`, `trialP`, … are what `to_proto` builds, `hpFromP`, `trialFromP`, … what
    `from_proto` reads.

    What the encoding does to an entry (and the theorems say exactly this, no more):
    * every field survives, with its type (`Value` is a oneof of sint64 / double / string / bool; bounds and steps of
      `Float` are doubles, of `Int` sint64);
    * `step = None` travels as `0` and comes back as `None` (`step or None`), so a step of exactly `0` is not
      representable — excluded by `WF`, and by the constructors of the library;
    * the effective default travels (`self.default`: the given default, else `min_value` / the first choice), so the
      decoded entry carries it as its explicit default: `hpFromP (hpP h) = norm h`, where `norm` makes the default
      explicit and is idempotent; every observable of `norm h` equals that of `h`;
    * the code encodes `Choice` values and condition values with the kind of the first value; the model tags every value
      with its own kind, which is the same thing on the lists the constructor of `Choice` produces (one type, Booleans
      standardised to integers). `Homog` says "one kind"; it is not part of `WF`, and no theorem assumes it: on a mixed
      list (a `Parent` condition accepts one) model and code differ;
    * the search space is grouped by type (fixed, float, int, choice, boolean when decoded): a permutation, put back
      in a parents-first order by `Reorder.reorder` (`Rpc.decode_parents_first`);
    * metric values and the score are single-precision floats: they come back rounded (`r32`, idempotent), nothing else
      changes; `Trial.message` has no field and comes back empty (known finding F19). -/
namespace Proto
open Codec

def valP : Val → J
  | .int i => .obj [("int", .int i)]
  | .flt t => .obj [("float", .flt t)]
  | .str s => .obj [("str", .str s)]
  | .bool b => .obj [("bool", .bool b)]

def valFromP : J → Option Val
  | .obj [("int", .int i)] => some (.int i)
  | .obj [("float", .flt t)] => some (.flt t)
  | .obj [("str", .str s)] => some (.str s)
  | .obj [("bool", .bool b)] => some (.bool b)
  | _ => none

theorem val_roundtrip (v : Val) : valFromP (valP v) = some v := by cases v <;> rw [valP, valFromP]

def valsFromP : List J → Option (List Val)
  | [] => some []
  | x :: xs => match valFromP x, valsFromP xs with
    | some v, some vs => some (v :: vs)
    | _, _ => none

theorem vals_roundtrip (l : List Val) : valsFromP (l.map valP) = some l := by
  induction l with
  | nil => rfl
  | cons v vs ih => rw [List.map_cons, valsFromP, val_roundtrip, ih]

/-- the kind `to_proto` picks for a homogeneous value list from its first element -/
inductive VK | str | bool | int | float
  deriving DecidableEq, Repr

def kindOf : Val → VK
  | .str _ => .str | .bool _ => .bool | .int _ => .int | .flt _ => .float

def Homog (vs : List Val) : Prop := ∀ v ∈ vs, ∀ w ∈ vs, kindOf v = kindOf w

def condP (c : Cond) : J := .obj [("name", .str c.name), ("values", .arr (c.vals.map valP))]

def condFromP (j : J) : Option Cond :=
  match j.get "name", j.get "values" with
  | some (.str n), some (.arr vs) => (valsFromP vs).map (fun vs => ⟨n, vs⟩)
  | _, _ => none

theorem cond_roundtrip (c : Cond) : condFromP (condP c) = some c := by
  simp only [condFromP, condP, J.get, List.find?, String.reduceBEq, vals_roundtrip, Option.map_some]

def condsFromP : List J → Option (List Cond)
  | [] => some []
  | x :: xs => match condFromP x, condsFromP xs with
    | some c, some cs => some (c :: cs)
    | _, _ => none

theorem conds_roundtrip (l : List Cond) : condsFromP (l.map condP) = some l := by
  induction l with
  | nil => rfl
  | cons c cs ih => rw [List.map_cons, condsFromP, cond_roundtrip, ih]

def samplingP : String → String
  | "linear" => "LINEAR" | "log" => "LOG" | "reverse_log" => "REVERSE_LOG" | _ => "NONE"
def samplingFromP : String → Option String
  | "LINEAR" => some "linear" | "LOG" => some "log" | "REVERSE_LOG" => some "reverse_log" | _ => none

def ValidSampling (s : String) : Prop := s = "linear" ∨ s = "log" ∨ s = "reverse_log"

theorem sampling_roundtrip (s : String) (h : ValidSampling s) : samplingFromP (samplingP s) = some s := by
  rcases h with rfl | rfl | rfl <;> rw [samplingP, samplingFromP]

/-- `step=self.step if self.step is not None else 0` (a double `0.0` for `Float`) -/
def stepP (zero : Val) (st : Option Val) : J := (st.getD zero).toJ
/-- `step=proto.step or None` -/
def stepFromP (zero : Val) (j : J) : Option (Option Val) :=
  match Val.fromJ j with
  | some v => some (if v = zero then none else some v)
  | none => none

theorem step_roundtrip (zero : Val) (st : Option Val) (h : st ≠ some zero) : stepFromP zero (stepP zero st) = some st := by
  cases st with
  | none => simp only [stepFromP, stepP, Option.getD_none, Val.roundtrip, ↓reduceIte]
  | some v =>
    have hv : v ≠ zero := fun e => h (congrArg some e)
    simp only [stepFromP, stepP, Option.getD_some, Val.roundtrip, hv, ↓reduceIte]

def zeroI : Val := .int 0
def zeroF : Val := .flt "0/1"

/-- `hp.default`: the given default, else the lower bound / first choice -/
def effDefault : Kind → Val
  | .int lo _ _ _ d => d.getD lo
  | .float lo _ _ _ d => d.getD lo
  | .choice vs _ d => d.getD (vs.headD (.int 0))
  | .boolean d => d
  | .fixed v => v

/-- the entry with its effective default made explicit (what the other side holds after decoding) -/
def normKind : Kind → Kind
  | .int lo hi st sa d => .int lo hi st sa (some (d.getD lo))
  | .float lo hi st sa d => .float lo hi st sa (some (d.getD lo))
  | .choice vs ord d => .choice vs ord (some (d.getD (vs.headD (.int 0))))
  | k => k

def norm (h : HP) : HP := { h with kind := normKind h.kind }

theorem norm_idem (h : HP) : norm (norm h) = norm h := by
  cases h with
  | mk n cs k => cases k <;> rfl

def hpP (h : HP) : J :=
  let base := [("name", J.str h.name), ("conditions", J.arr (h.conds.map condP))]
  match h.kind with
  | .int lo hi st sa _ => .obj ([("kind", .str "Int")] ++ base ++ [("min_value", lo.toJ), ("max_value", hi.toJ), ("step", stepP zeroI st),
      ("sampling", .str (samplingP sa)), ("default", (effDefault h.kind).toJ)])
  | .float lo hi st sa _ => .obj ([("kind", .str "Float")] ++ base ++ [("min_value", lo.toJ), ("max_value", hi.toJ), ("step", stepP zeroF st),
      ("sampling", .str (samplingP sa)), ("default", (effDefault h.kind).toJ)])
  | .choice vs ord _ => .obj ([("kind", .str "Choice")] ++ base ++ [("values", .arr (vs.map valP)), ("ordered", .bool ord),
      ("default", valP (effDefault h.kind))])
  | .boolean d => .obj ([("kind", .str "Boolean")] ++ base ++ [("default", d.toJ)])
  | .fixed v => .obj ([("kind", .str "Fixed")] ++ base ++ [("value", valP v)])

def numericFromP (zero : Val) (j : J) : Option (Val × Val × Option Val × String × Val) :=
  match j.get "min_value", j.get "max_value", j.get "step", j.get "sampling", j.get "default" with
  | some lo, some hi, some st, some (.str sa), some d =>
    match Val.fromJ lo, Val.fromJ hi, stepFromP zero st, samplingFromP sa, Val.fromJ d with
    | some lo, some hi, some st, some sa, some d => some (lo, hi, st, sa, d)
    | _, _, _, _, _ => none
  | _, _, _, _, _ => none

def hpFromP (j : J) : Option HP :=
  match j.get "kind", j.get "name", j.get "conditions" with
  | some (.str k), some (.str n), some (.arr cs) =>
    match condsFromP cs with
    | none => none
    | some cs =>
      if k == "Int" then (numericFromP zeroI j).map (fun (lo, hi, st, sa, d) => ⟨n, cs, .int lo hi st sa (some d)⟩)
      else if k == "Float" then (numericFromP zeroF j).map (fun (lo, hi, st, sa, d) => ⟨n, cs, .float lo hi st sa (some d)⟩)
      else if k == "Choice" then
        match j.get "values", j.get "ordered", j.get "default" with
        | some (.arr vs), some (.bool ord), some d =>
          match valsFromP vs, valFromP d with
          | some vs, some d => some ⟨n, cs, .choice vs ord (some d)⟩
          | _, _ => none
        | _, _, _ => none
      else if k == "Boolean" then
        match j.get "default" with
        | some d => (Val.fromJ d).map (fun d => ⟨n, cs, .boolean d⟩)
        | none => none
      else if k == "Fixed" then
        match j.get "value" with
        | some v => (valFromP v).map (fun v => ⟨n, cs, .fixed v⟩)
        | none => none
      else none
  | _, _, _ => none

/-- what the constructors of the library guarantee and the encoding needs: a known sampling mode, a step that is
    not exactly zero -/
def WF (h : HP) : Prop :=
  match h.kind with
  | .int _ _ st sa _ => ValidSampling sa ∧ st ≠ some zeroI
  | .float _ _ st sa _ => ValidSampling sa ∧ st ≠ some zeroF
  | _ => True

/-- for `hp_roundtrip`: the numeric fields as `hpP` lays them out; `k n c` are whatever the three fields in front hold -/
theorem numeric_roundtrip (zero : Val) (k n c : J) (lo hi : Val) (st : Option Val) (sa : String) (d : Val)
    (hsa : ValidSampling sa) (hst : st ≠ some zero) :
    numericFromP zero (.obj [("kind", k), ("name", n), ("conditions", c), ("min_value", lo.toJ), ("max_value", hi.toJ),
      ("step", stepP zero st), ("sampling", .str (samplingP sa)), ("default", d.toJ)]) = some (lo, hi, st, sa, d) := by
  simp only [numericFromP, J.get, List.find?, String.reduceBEq, Option.map_some, Val.roundtrip, step_roundtrip zero st hst,
    sampling_roundtrip sa hsa]

theorem hp_roundtrip (h : HP) (hw : WF h) : hpFromP (hpP h) = some (norm h) := by
  obtain ⟨n, cs, k⟩ := h
  cases k with
  | int lo hi st sa d | float lo hi st sa d =>
    simp only [hpFromP, hpP, List.cons_append, List.nil_append, J.get, List.find?, String.reduceBEq, Bool.false_eq_true, ↓reduceIte,
      conds_roundtrip, numeric_roundtrip _ _ _ _ lo hi st sa _ hw.1 hw.2, Option.map_some, norm, normKind, effDefault]
  | choice vs ord d | boolean d | fixed d =>
    -- `vals_roundtrip`, `val_roundtrip`: this file's, for `valP`; `Val.roundtrip`: `Codec`'s, for `toJ` (`Boolean`)
    simp only [hpFromP, hpP, List.cons_append, List.nil_append, J.get, List.find?, String.reduceBEq, Bool.false_eq_true, ↓reduceIte,
      conds_roundtrip, vals_roundtrip, val_roundtrip, Val.roundtrip, Option.map_some, norm, normKind, effDefault]

theorem wf_norm (h : HP) (hw : WF h) : WF (norm h) := by
  obtain ⟨n, cs, k⟩ := h
  cases k <;> exact hw

theorem hp_roundtrip_twice (h : HP) (hw : WF h) :
    (hpFromP (hpP h)).bind (fun h' => hpFromP (hpP h')) = some (norm h) := by
  rw [hp_roundtrip h hw, Option.bind_some, hp_roundtrip (norm h) (wf_norm h hw), norm_idem]

def valuesP (vs : List (String × Val)) : J := .obj (vs.map (fun p => (p.1, valP p.2)))

def kvsFromP : List (String × J) → Option (List (String × Val))
  | [] => some []
  | (k, x) :: xs => match valFromP x, kvsFromP xs with
    | some v, some vs => some ((k, v) :: vs)
    | _, _ => none

def valuesFromP : J → Option (List (String × Val))
  | .obj kvs => kvsFromP kvs
  | _ => none

theorem values_roundtrip (vs : List (String × Val)) : valuesFromP (valuesP vs) = some vs := by
  simp only [valuesFromP, valuesP]
  induction vs with
  | nil => rfl
  | cons p ps ih => rw [List.map_cons, kvsFromP, val_roundtrip, ih]

def isFixed (h : HP) : Bool := match h.kind with | .fixed _ => true | _ => false
def isFloat (h : HP) : Bool := match h.kind with | .float .. => true | _ => false
def isInt (h : HP) : Bool := match h.kind with | .int .. => true | _ => false
def isChoice (h : HP) : Bool := match h.kind with | .choice .. => true | _ => false
def isBoolean (h : HP) : Bool := match h.kind with | .boolean _ => true | _ => false

/-- the order in which `from_proto` lists the entries of the grouped message: fixed, float, int, choice, boolean -/
def decodedOrder (sp : List HP) : List HP :=
  sp.filter isFixed ++ sp.filter isFloat ++ sp.filter isInt ++ sp.filter isChoice ++ sp.filter isBoolean

theorem decodedOrder_perm (sp : List HP) : (decodedOrder sp).Perm sp := by
  rw [List.perm_iff_count]
  intro a
  simp only [decodedOrder, List.count_append, List.count_filter_ite]
  -- an entry is counted in the one group of its kind
  obtain ⟨n, cs, k⟩ := a
  cases k <;>
    simp only [isFixed, isFloat, isInt, isChoice, isBoolean, ↓reduceIte, Bool.false_eq_true, Nat.zero_add, Nat.add_zero]

structure PObs where
  vals : List String      -- float tokens
  step : Int
  deriving DecidableEq, Repr

structure PHist where
  maximize : Bool
  obs : List PObs
  deriving DecidableEq, Repr

structure PTrial where
  id : String
  status : String
  values : List (String × Val)
  metrics : List (String × PHist)
  score : Option (String × Int)      -- (value token, best step)
  message : Option String
  deriving DecidableEq, Repr

variable (r32 : String → String)

def obsP (o : PObs) : J := .obj [("value", .arr (o.vals.map (fun t => J.flt (r32 t)))), ("step", .int o.step)]

def toksFromP : List J → Option (List String)
  | [] => some []
  | .flt t :: xs => (toksFromP xs).map (t :: ·)
  | _ => none

def obsFromP (j : J) : Option PObs :=
  match j.get "value", j.get "step" with
  | some (.arr vs), some (.int s) => (toksFromP vs).map (fun vs => ⟨vs, s⟩)
  | _, _ => none

def roundObs (o : PObs) : PObs := { o with vals := o.vals.map r32 }
def roundHist (h : PHist) : PHist := { h with obs := h.obs.map (roundObs r32) }

theorem roundObs_idem (hr : ∀ t, r32 (r32 t) = r32 t) (o : PObs) : roundObs r32 (roundObs r32 o) = roundObs r32 o := by
  simp only [roundObs, List.map_map, Function.comp_def, hr]

theorem toks_roundtrip (l : List String) : toksFromP (l.map (fun t => J.flt (r32 t))) = some (l.map r32) := by
  induction l with
  | nil => rfl
  | cons t ts ih => rw [List.map_cons, toksFromP, ih, Option.map_some, List.map_cons]

theorem obs_roundtrip (o : PObs) : obsFromP (obsP r32 o) = some (roundObs r32 o) := by
  simp only [obsFromP, obsP, J.get, List.find?, String.reduceBEq, toks_roundtrip, Option.map_some, roundObs]

def obssFromP : List J → Option (List PObs)
  | [] => some []
  | x :: xs => match obsFromP x, obssFromP xs with
    | some o, some os => some (o :: os)
    | _, _ => none

theorem obss_roundtrip (l : List PObs) : obssFromP (l.map (obsP r32)) = some (l.map (roundObs r32)) := by
  induction l with
  | nil => rfl
  | cons o os ih => rw [List.map_cons, obssFromP, obs_roundtrip, ih, List.map_cons]

def histP (h : PHist) : J := .obj [("maximize", .bool h.maximize), ("observations", .arr (h.obs.map (obsP r32)))]
def histFromP (j : J) : Option PHist :=
  match j.get "maximize", j.get "observations" with
  | some (.bool m), some (.arr os) => (obssFromP os).map (fun os => ⟨m, os⟩)
  | _, _ => none

theorem hist_roundtrip (h : PHist) : histFromP (histP r32 h) = some (roundHist r32 h) := by
  simp only [histFromP, histP, J.get, List.find?, String.reduceBEq, obss_roundtrip, Option.map_some, roundHist]

def histsFromP : List (String × J) → Option (List (String × PHist))
  | [] => some []
  | (k, x) :: xs => match histFromP x, histsFromP xs with
    | some h, some hs => some ((k, h) :: hs)
    | _, _ => none

theorem hists_roundtrip (l : List (String × PHist)) :
    histsFromP (l.map (fun p => (p.1, histP r32 p.2))) = some (l.map (fun p => (p.1, roundHist r32 p.2))) := by
  induction l with
  | nil => rfl
  | cons p ps ih => rw [List.map_cons, histsFromP, hist_roundtrip, ih, List.map_cons]

def scoreP : Option (String × Int) → J
  | none => .null
  | some (v, s) => .obj [("value", .flt (r32 v)), ("step", .int s)]
def scoreFromP : J → Option (Option (String × Int))
  | .null => some none
  | j => match j.get "value", j.get "step" with
    | some (.flt v), some (.int s) => some (some (v, s))
    | _, _ => none

theorem score_roundtrip (sc : Option (String × Int)) :
    scoreFromP (scoreP r32 sc) = some (sc.map (fun p => (r32 p.1, p.2))) := by
  cases sc with
  | none => rfl
  | some p =>
    simp only [scoreP, scoreFromP, J.get, List.find?, String.reduceBEq, Option.map_some]

/-- the Trial message: no field for `message` -/
def trialP (t : PTrial) : J :=
  .obj [("trial_id", .str t.id), ("status", .str t.status), ("values", valuesP t.values),
        ("metrics", .obj (t.metrics.map (fun p => (p.1, histP r32 p.2)))), ("score", scoreP r32 t.score)]

def trialFromP (j : J) : Option PTrial :=
  match j.get "trial_id", j.get "status", j.get "values", j.get "metrics", j.get "score" with
  | some (.str i), some (.str st), some vs, some (.obj ms), some sc =>
    match valuesFromP vs, histsFromP ms, scoreFromP sc with
    | some vs, some ms, some sc => some ⟨i, st, vs, ms, sc, none⟩
    | _, _, _ => none
  | _, _, _, _, _ => none

theorem trial_roundtrip (t : PTrial) :
    trialFromP (trialP r32 t) = some { t with metrics := t.metrics.map (fun p => (p.1, roundHist r32 p.2)),
                                              score := t.score.map (fun p => (r32 p.1, p.2)), message := none } := by
  simp only [trialFromP, trialP, J.get, List.find?, String.reduceBEq, Option.map_some, values_roundtrip, hists_roundtrip,
    score_roundtrip]

/-- non-vacuity: an `Int` with no explicit default and no step, under a condition -/
example :
    let h : HP := ⟨"units", [⟨"model", [.str "mlp"]⟩], .int (.int 32) (.int 128) none "log" none⟩
    WF h ∧ hpFromP (hpP h) = some ⟨"units", [⟨"model", [.str "mlp"]⟩], .int (.int 32) (.int 128) none "log" (some (.int 32))⟩ := by
  intro h
  have hw : WF h := ⟨Or.inr (Or.inl rfl), by decide⟩
  exact ⟨hw, hp_roundtrip h hw⟩

end Proto
#print axioms Proto.hp_roundtrip
#print axioms Proto.decodedOrder_perm
#print axioms Proto.trial_roundtrip
