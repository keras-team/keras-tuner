import Ktm.BestEpoch
/-! C18/C20: result conversion (`convert_to_metrics_dict`, `get_best_step`), multi-objective value, shared `SaveBestEpoch`. -/
namespace Results

/-- a multi-objective's value on one set of logs: sum of the minimised metrics minus sum of the maximised
ones (`MultiObjective.get_value`, a left fold over the logs) -/
def multiValue : List (Bool × Int) → Int
  | [] => 0
  | (minimize, v) :: rest => (if minimize then v else -v) + multiValue rest

def sumWhere (p : Bool) (l : List (Bool × Int)) : Int := ((l.filter (·.1 == p)).map (·.2)).sum

theorem sumWhere_cons (p m : Bool) (v : Int) (l : List (Bool × Int)) :
    sumWhere p ((m, v) :: l) = (if m = p then v else 0) + sumWhere p l := by
  cases m <;> cases p <;> simp [sumWhere]

theorem multiValue_eq (l : List (Bool × Int)) : multiValue l = sumWhere true l - sumWhere false l := by
  induction l with
  | nil => rfl
  | cons x xs ih =>
    obtain ⟨m, v⟩ := x
    rw [multiValue, ih, sumWhere_cons, sumWhere_cons]
    cases m with
    | false => simp only [Bool.false_eq_true, if_false, if_true]; omega
    | true => simp only [Bool.true_eq_false, if_false, if_true]; omega

/-- a value in the "minimise frame": maximising `v` = minimising `−v` -/
def frame (minimize : Bool) (v : Int) : Int := if minimize then v else -v

/-- best epoch of one execution's curve (History post-processing) -/
def bestEpoch (minimize : Bool) (curve : List Int) : Option Nat := BestEpoch.histBestEpoch (curve.map (frame minimize))

/-- objective value of one execution = the curve's value at its best epoch -/
def bestValue (minimize : Bool) (curve : List Int) : Option Int := (bestEpoch minimize curve).bind (fun e => curve[e]?)

/-- `convert_to_metrics_dict` on a list of executions: the mean of each execution's best value -/
def listObjective (minimize : Bool) (curves : List (List Int)) : Option Rat :=
  let bests := curves.filterMap (bestValue minimize)
  if bests.length = curves.length ∧ curves ≠ [] then some ((bests.sum : Int) / (curves.length : Rat)) else none

/-- `get_best_step` on a list: `int(mean(best epochs))` -/
def listBestStep (minimize : Bool) (curves : List (List Int)) : Option Nat :=
  let es := curves.filterMap (bestEpoch minimize)
  if es.length = curves.length ∧ curves ≠ [] then some (es.sum / curves.length) else none

/-- `SaveBestEpoch` shared by all executions of a trial: the flat index (over the concatenated curves) of
the last write -/
def keptFlat (minimize : Bool) (curves : List (List Int)) : Option Nat :=
  (BestEpoch.saves (curves.flatten.map (frame minimize)) none 0).getLast?

theorem bestEpoch_first (minimize : Bool) (curve : List Int) (h : curve ≠ []) :
    ∃ i, bestEpoch minimize curve = some i ∧ BestEpoch.FirstMin (curve.map (frame minimize)) i :=
  BestEpoch.histBestEpoch_first _ fun e => h (List.map_eq_nil_iff.mp e)

/-- C20: the weights kept on disk are those of the first epoch, in execution order, attaining the best
objective value over all executions -/
theorem kept_is_first_global_best (minimize : Bool) (curves : List (List Int)) (h : curves.flatten ≠ []) :
    ∃ i, keptFlat minimize curves = some i ∧ BestEpoch.FirstMin (curves.flatten.map (frame minimize)) i :=
  BestEpoch.kept_is_first_best _ fun e => h (List.map_eq_nil_iff.mp e)

theorem single_execution_kept_eq_best_step (minimize : Bool) (curve : List Int) (h : curve ≠ []) :
    keptFlat minimize [curve] = bestEpoch minimize curve := by
  rw [keptFlat, List.flatten_singleton]
  exact BestEpoch.callback_eq_history _ fun e => h (List.map_eq_nil_iff.mp e)

example : (listObjective true [[3, 1, 2], [5, 4]]).isSome ∧ listBestStep true [[3, 1, 2], [5, 4]] = some 1 ∧
    keptFlat true [[3, 1, 2], [5, 4]] = some 1 ∧ keptFlat false [[3, 1, 2], [5, 4]] = some 3 ∧
    multiValue [(true, 3), (false, 2), (true, 1)] = 2 := by decide

end Results
#print axioms Results.kept_is_first_global_best
