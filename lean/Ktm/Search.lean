import Ktm.Core
/-! C19: `BaseTuner.search` over the core oracle with a scripted `run_trial`. Both theorems are inductions on the fuel whose step is
`search_cases`, what one turn of the loop can do. -/
namespace Search
open Core
variable {V A : Type}

inductive Attempt
  | ret (report : Option Int)     -- run_trial returned a result (none = NaN objective)
  | raise                         -- ordinary exception  → INVALID
  | failedTrial                   -- FailedTrialError    → FAILED
  | fatal                         -- FatalError subclass → propagates
  | interrupt                     -- KeyboardInterrupt / crash

inductive Ev
  | start (id : Nat) | ended (id : Nat) (oc : Outcome) | stoppedEv | fatalEv | interruptEv | abortEv | outOfFuel
  deriving DecidableEq

/-- the loop of `BaseTuner.search` for tuner 0; the fuel left is the choice passed to the algorithm -/
def search (alg : Alg V A) : Nat → Oracle V A → List Attempt → List Ev → Oracle V A × List Ev
  | 0, o, _, acc => (o, acc ++ [.outOfFuel])
  | fuel + 1, o, script, acc =>
    let r := create alg o 0 fuel
    match r.2 with
    | .stopped => (r.1, acc ++ [.stoppedEv])
    | .idle => search alg fuel r.1 script acc
    | .trial id _ =>
      match script with
      | [] => (r.1, acc ++ [.start id, .interruptEv])
      | .ret rep :: rest =>
        let o1 := (update r.1 id rep).1
        let e := endT alg o1 id .completed
        match e.2 with
        | .abort => (e.1, acc ++ [.start id, .ended id .completed, .abortEv])
        | _ => search alg fuel e.1 rest (acc ++ [.start id, .ended id .completed])
      | .raise :: rest =>
        let e := endT alg r.1 id .invalid
        match e.2 with
        | .abort => (e.1, acc ++ [.start id, .ended id .invalid, .abortEv])
        | _ => search alg fuel e.1 rest (acc ++ [.start id, .ended id .invalid])
      | .failedTrial :: rest =>
        let e := endT alg r.1 id .failed
        match e.2 with
        | .abort => (e.1, acc ++ [.start id, .ended id .failed, .abortEv])
        | _ => search alg fuel e.1 rest (acc ++ [.start id, .ended id .failed])
      | .fatal :: _ => (r.1, acc ++ [.start id, .fatalEv])
      | .interrupt :: _ => (r.1, acc ++ [.start id, .interruptEv])
    | _ => (r.1, acc ++ [.interruptEv])

/-- prefix made of complete (start, ended) pairs for the same id -/
inductive Pairs : List Ev → Prop
  | nil : Pairs []
  | snoc (l : List Ev) (id : Nat) (oc : Outcome) : Pairs l → Pairs (l ++ [.start id, .ended id oc])

inductive Terminal : List Ev → Prop
  | stopped : Terminal [.stoppedEv]
  | fuel : Terminal [.outOfFuel]
  | interrupted : Terminal [.interruptEv]
  | fatal (id : Nat) : Terminal [.start id, .fatalEv]
  | interruptedIn (id : Nat) : Terminal [.start id, .interruptEv]
  | abort (id : Nat) (oc : Outcome) : Terminal [.start id, .ended id oc, .abortEv]

/-- what the loop reports for an attempt of `run_trial` (fatal errors and interrupts report nothing) -/
def outcomeOf : Attempt → Option Outcome
  | .ret _ => some .completed
  | .raise => some .invalid
  | .failedTrial => some .failed
  | .fatal => none
  | .interrupt => none

/-- the statuses reported to `end_trial`, in order -/
def endsOf : List Ev → List Outcome
  | [] => []
  | .ended _ oc :: rest => oc :: endsOf rest
  | _ :: rest => endsOf rest

theorem endsOf_append (a b : List Ev) : endsOf (a ++ b) = endsOf a ++ endsOf b := by
  induction a with
  | nil => rfl
  | cons e es ih =>
    cases e with
    | ended id oc => exact congrArg (oc :: ·) ih
    | _ => exact ih

/-- one turn of the loop. The oracle state `o'` it goes on from is left open: a principle about traces only. -/
theorem search_cases {motive : Oracle V A × List Ev → Prop} (alg : Alg V A) (fuel : Nat) (o : Oracle V A)
    (script : List Attempt) (acc : List Ev)
    (halt : ∀ o' t, Terminal t → endsOf t = [] → motive (o', acc ++ t))
    (again : ∀ o', motive (search alg fuel o' script acc))
    (abort : ∀ a rest id oc o', script = a :: rest → outcomeOf a = some oc →
      motive (o', acc ++ [.start id, .ended id oc, .abortEv]))
    (next : ∀ a rest id oc o', script = a :: rest → outcomeOf a = some oc →
      motive (search alg fuel o' rest (acc ++ [.start id, .ended id oc]))) :
    motive (search alg (fuel + 1) o script acc) := by
  rw [search]
  split
  · exact halt _ _ .stopped rfl
  · exact again _
  · next id _ _ =>
    split
    · exact halt _ _ (.interruptedIn id) rfl
    · dsimp only
      split
      · exact abort _ _ _ _ _ rfl rfl
      · exact next _ _ _ _ _ rfl rfl
    · dsimp only
      split
      · exact abort _ _ _ _ _ rfl rfl
      · exact next _ _ _ _ _ rfl rfl
    · dsimp only
      split
      · exact abort _ _ _ _ _ rfl rfl
      · exact next _ _ _ _ _ rfl rfl
    · exact halt _ _ (.fatal id) rfl
    · exact halt _ _ (.interruptedIn id) rfl
  · exact halt _ _ .interrupted rfl

/-- C19: the loop ends every trial it starts exactly once — the trace is a sequence of
    (start, end) pairs followed by STOPPED, or by a start whose run raised a fatal error / was
    interrupted, or by the aborting end — and the reported status follows the error mapping -/
theorem search_trace (alg : Alg V A) (fuel : Nat) : ∀ (o : Oracle V A) (script : List Attempt) (acc : List Ev),
    Pairs acc → ∃ p t, (search alg fuel o script acc).2 = p ++ t ∧ Pairs p ∧ Terminal t := by
  induction fuel with
  | zero => intro o script acc hacc; exact ⟨acc, _, rfl, hacc, .fuel⟩
  | succ fuel ih =>
    intro o script acc hacc
    apply search_cases alg fuel o script acc (motive := fun r => ∃ p t, r.2 = p ++ t ∧ Pairs p ∧ Terminal t)
    case halt => exact fun _ t ht _ => ⟨acc, t, rfl, hacc, ht⟩
    case again => exact fun _ => ih _ _ _ hacc
    case abort => exact fun _ _ id oc _ _ _ => ⟨acc, _, rfl, hacc, .abort id oc⟩
    case next => exact fun _ _ id oc _ _ _ => ih _ _ _ (.snoc acc id oc hacc)

/-- status mapping: the statuses reported to the oracle are exactly the images of the first `k`
    attempts of `run_trial` (returned ⇒ COMPLETED, ordinary exception ⇒ INVALID, `FailedTrialError` ⇒
    FAILED), in order, none skipped, none invented; a fatal error or an interrupt reports nothing -/
theorem status_mapping (alg : Alg V A) (fuel : Nat) : ∀ (o : Oracle V A) (script : List Attempt) (acc : List Ev),
    ∃ k, endsOf (search alg fuel o script acc).2 = endsOf acc ++ (script.take k).filterMap outcomeOf ∧
      ∀ a ∈ script.take k, (outcomeOf a).isSome := by
  induction fuel with
  | zero => intro o script acc; exact ⟨0, endsOf_append acc _, fun _ h => absurd h List.not_mem_nil⟩
  | succ fuel ih =>
    intro o script acc
    apply search_cases alg fuel o script acc (motive := fun r =>
      ∃ k, endsOf r.2 = endsOf acc ++ (script.take k).filterMap outcomeOf ∧ ∀ a ∈ script.take k, (outcomeOf a).isSome)
    case halt =>
      exact fun _ t _ he => ⟨0, (endsOf_append acc t).trans (congrArg _ he), fun _ h => absurd h List.not_mem_nil⟩
    case again => exact fun _ => ih _ _ _
    case abort =>
      -- the first attempt was reported, and the search ends
      intro a rest id oc _ hs ha
      subst hs
      refine ⟨1, ?_, List.forall_mem_cons.mpr ⟨Option.isSome_of_eq_some ha, fun _ h => absurd h List.not_mem_nil⟩⟩
      rw [endsOf_append, List.take_succ_cons, List.filterMap_cons_some ha]
      rfl
    case next =>
      -- the first attempt was reported: one more of the script is consumed
      intro a rest id oc o' hs ha
      subst hs
      obtain ⟨k, hk, hall⟩ := ih o' rest (acc ++ [.start id, .ended id oc])
      refine ⟨k + 1, ?_, List.forall_mem_cons.mpr ⟨Option.isSome_of_eq_some ha, hall⟩⟩
      rw [hk, endsOf_append, List.take_succ_cons, List.filterMap_cons_some ha, List.append_assoc]
      rfl

end Search
#print axioms Search.search_trace
#print axioms Search.status_mapping
