import Ktm.SpacePF
/-! C13: `Oracle.update_space` with the two new-entry flags, `ensure_active_values`, and the discovery loop of
    `BaseTuner._populate_initial_space` / `_activate_all_conditions` over a build program. The unseeded values
    `ensure_active_values` invents are inputs (`fills`, consumed in order). -/
namespace Space

/-- `_register(hp, overwrite=True)` on the oracle's container (no scopes open) -/
def registerOver (s : S) (h : HP) : S :=
  let s' := { s with hps := s.hps ++ [h] }
  if s'.isActive h then { s' with values := setVal s'.values h.name h.dflt } else s'

inductive UErr | notAllowed (names : List String)
  deriving DecidableEq, Repr

/-- `Oracle.update_space(hp)`: entries that do not exist yet (same name and conditions) are new; they are
    rejected, ignored or merged according to `allow_new_entries` / `tune_new_entries` -/
def updateSpace (allowNew tuneNew : Bool) (o : S) (hps : List HP) : Except UErr S :=
  let new := hps.filter (fun h => !(o.exists_ h.name h.conds))
  if !new.isEmpty && !allowNew then .error (.notAllowed (new.map (·.name)))
  else if !tuneNew then .ok o
  else .ok (new.foldl registerOver o)

/-- `ensure_active_values`: missing values of active entries are filled (from `fills`, in order), values of
    names none of whose entries is active are dropped -/
def ensureActive : List HP → S → List Val → S × List Val
  | [], s, fills => (s, fills)
  | h :: hs, s, fills =>
    if s.isActive h then
      match lookup s.values h.name with
      | some _ => ensureActive hs s fills
      | none => ensureActive hs { s with values := s.values ++ [(h.name, fills.headD h.dflt)] } fills.tail
    else if !s.isActiveName h.name then
      ensureActive hs { s with values := s.values.filter (fun p => p.1 != h.name) } fills
    else ensureActive hs s fills

/-- `get_space()`: a copy of the oracle's container: space and values, no open scopes, no recorded scopes -/
def copyOf (o : S) : S := { o with nameScopes := [], conds := [], activeScopes := [], inactiveScopes := [] }

structure Disc where
  o : S                              -- the oracle's hyperparameters
  never : List (List Cond)           -- scopes_never_active (may hold duplicates, as in the code)
  once : List (List Cond)            -- scopes_once_active
  fills : List Val
  builds : Nat
  err : Option UErr

def recordActive (d : Disc) (scopes : List (List Cond)) : Disc :=
  scopes.foldl (fun d c =>
    let d := if d.once.contains c then d else { d with once := d.once ++ [c] }
    if d.never.contains c then { d with never := d.never.erase c } else d) d

def recordInactive (d : Disc) (scopes : List (List Cond)) : Disc :=
  scopes.foldl (fun d c => if d.once.contains c then d else { d with never := d.never ++ [c] }) d

/-- the `while True` loop of `_activate_all_conditions`; `hp` is the container handed to the next build -/
def activateAll (allowNew tuneNew : Bool) (prog : List Stmt) : Nat → Disc → S → Disc
  | 0, d, _ => d
  | fuel + 1, d, hp =>
    let r := run 10000 hp prog none
    match updateSpace allowNew tuneNew d.o r.1.hps with
    | .error e => { d with err := some e, builds := d.builds + 1 }
    | .ok o' =>
      let d := { d with o := o', builds := d.builds + 1 }
      let d := recordInactive (recordActive d r.1.activeScopes) r.1.inactiveScopes
      match d.never with
      | [] => d
      | conds :: _ =>
        let hp0 := copyOf d.o
        let hp1 := { hp0 with values := conds.foldl (fun vs c => setVal vs c.name (c.vals.headD 0)) hp0.values }
        let e := ensureActive hp1.hps hp1 d.fills
        activateAll allowNew tuneNew prog fuel { d with fills := e.2 } e.1

/-- `_populate_initial_space` (no `declare_hyperparameters` override): start from the oracle's space -/
def populateInitial (allowNew tuneNew : Bool) (prog : List Stmt) (o : S) (fills : List Val) (fuel : Nat) : Disc :=
  activateAll allowNew tuneNew prog fuel { o := o, never := [], once := [], fills := fills, builds := 0, err := none } (copyOf o)

theorem updateSpace_ok {allowNew tuneNew : Bool} {o o' : S} {hps : List HP}
    (h : updateSpace allowNew tuneNew o hps = .ok o') :
    o' = if tuneNew then (hps.filter (fun h => !(o.exists_ h.name h.conds))).foldl registerOver o else o := by
  revert h
  unfold updateSpace
  simp only
  generalize (!(List.filter _ hps).isEmpty && !allowNew) = refused
  intro h
  cases refused with
  | true => cases h
  | false =>
    cases tuneNew with
    | false => exact (Except.ok.inj h).symm
    | true => exact (Except.ok.inj h).symm

theorem registerOver_hps (s : S) (h : HP) : (registerOver s h).hps = s.hps ++ [h] := by
  unfold registerOver
  simp only
  split <;> rfl

theorem foldl_registerOver_hps (l : List HP) (o : S) : (l.foldl registerOver o).hps = o.hps ++ l := by
  induction l generalizing o with
  | nil => exact (List.append_nil _).symm
  | cons a l ih => rw [List.foldl_cons, ih, registerOver_hps, List.append_assoc, List.singleton_append]

theorem updateSpace_adds (o : S) (hps : List HP) :
    ∃ o', updateSpace true true o hps = .ok o' ∧
      o'.hps = o.hps ++ hps.filter (fun h => !(o.exists_ h.name h.conds)) := by
  refine ⟨_, ?_, foldl_registerOver_hps _ _⟩
  simp only [updateSpace, Bool.not_true, Bool.and_false, Bool.false_eq_true, if_false]

theorem updateSpace_grows {allowNew tuneNew : Bool} {o o' : S} {hps : List HP}
    (h : updateSpace allowNew tuneNew o hps = .ok o') : o.hps <+: o'.hps := by
  rw [updateSpace_ok h]
  split
  · exact foldl_registerOver_hps _ _ ▸ List.prefix_append _ _
  · exact List.prefix_rfl

theorem updateSpace_has_all (o : S) (hps : List HP) (h : HP) (hh : h ∈ hps) :
    ∃ o', updateSpace true true o hps = .ok o' ∧ o'.exists_ h.name h.conds = true := by
  obtain ⟨o', hok, hhps⟩ := updateSpace_adds o hps
  refine ⟨o', hok, ?_⟩
  cases hex : o.exists_ h.name h.conds with
  | true => exact exists_mono (hhps ▸ List.prefix_append _ _) hex
  | false =>
    have hmem : h ∈ hps.filter (fun h => !o.exists_ h.name h.conds) := List.mem_filter.mpr ⟨hh, congrArg not hex⟩
    exact exists_iff.mpr ⟨h, hhps ▸ List.mem_append_right _ hmem, rfl, rfl⟩

theorem recordActive_o (d : Disc) (sc : List (List Cond)) : (recordActive d sc).o = d.o := by
  refine List.foldl_keeps Disc.o (fun d c => ?_) sc d
  simp only [apply_ite Disc.o, ite_self]

theorem recordInactive_o (d : Disc) (sc : List (List Cond)) : (recordInactive d sc).o = d.o := by
  refine List.foldl_keeps Disc.o (fun d c => ?_) sc d
  simp only [apply_ite Disc.o, ite_self]

theorem activateAll_succ (allowNew tuneNew : Bool) (prog : List Stmt) (fuel : Nat) (d : Disc) (hp o' : S)
    (hu : updateSpace allowNew tuneNew d.o (run 10000 hp prog none).1.hps = .ok o') :
    ∃ d' hp', d'.o = o' ∧ (activateAll allowNew tuneNew prog (fuel + 1) d hp = d' ∨
      activateAll allowNew tuneNew prog (fuel + 1) d hp = activateAll allowNew tuneNew prog fuel d' hp') := by
  simp only [activateAll, hu]
  generalize hd2 : recordInactive (recordActive _ _) _ = d2
  have hd2o : d2.o = o' := by rw [← hd2, recordInactive_o, recordActive_o]
  cases d2.never with
  | nil => exact ⟨d2, hp, hd2o, Or.inl rfl⟩
  | cons conds rest =>
    refine ⟨_, _, ?_, Or.inr rfl⟩
    exact hd2o

theorem activateAll_grows (allowNew tuneNew : Bool) (prog : List Stmt) (fuel : Nat) : ∀ (d : Disc) (hp : S),
    d.o.hps <+: (activateAll allowNew tuneNew prog fuel d hp).o.hps := by
  induction fuel with
  | zero => exact fun d hp => List.prefix_rfl
  | succ fuel ih =>
    intro d hp
    cases hu : updateSpace allowNew tuneNew d.o (run 10000 hp prog none).1.hps with
    | error e =>
      simp only [activateAll, hu]
      exact List.prefix_rfl
    | ok o' =>
      refine (updateSpace_grows hu).trans ?_
      obtain ⟨d', hp', rfl, h | h⟩ := activateAll_succ allowNew tuneNew prog fuel d hp o' hu
      · rw [h]
        exact List.prefix_rfl
      · rw [h]
        exact ih d' hp'

end Space
