/-! C17 — a call whose wrapper reads shared state before taking the lock (defect F23: the legacy form
`end_trial(trial_id, status)` was converted into a `Trial` — which copies the oracle's search space — ahead of `lock.acquire()`).

Two kinds of calls on one shared value `s : Nat`, each an atomic critical section once the lock is held:
* `grow`   : `s := s + 1`                       (another thread's `end_trial` adds an entry to the space)
* `legacy` : records a snapshot of `s`          (the legacy call records the trial with a copy of the space)

In the repaired wrapper the snapshot is taken inside the critical section; in the original one it is taken at a step of its own,
ahead of the lock. -/
namespace SyncPre

inductive LPc | start | snapped (v : Nat) | done (v : Nat)
  deriving DecidableEq, Repr

structure G where
  s : Nat               -- the shared value (size of the search space)
  lpc : LPc
  grown : Nat           -- grow calls completed (each is one atomic critical section)
  deriving DecidableEq, Repr

inductive Ev | grow | legacyStep
  deriving DecidableEq, Repr

/-- original wrapper: the legacy call takes its snapshot in a step of its own (no lock held), then runs its critical section -/
def stepOrig (g : G) : Ev → G
  | .grow => { g with s := g.s + 1, grown := g.grown + 1 }
  | .legacyStep =>
    match g.lpc with
    | .start => { g with lpc := .snapped g.s }
    | .snapped v => { g with lpc := .done v }
    | .done _ => g

/-- repaired wrapper: snapshot and record are one critical section -/
def stepFix (g : G) : Ev → G
  | .grow => { g with s := g.s + 1, grown := g.grown + 1 }
  | .legacyStep =>
    match g.lpc with
    | .start => { g with lpc := .done g.s }
    | .snapped v => { g with lpc := .done v }
    | .done _ => g

def init : G := ⟨0, .start, 0⟩

def runOrig (g : G) (es : List Ev) : G := es.foldl stepOrig g
def runFix (g : G) (es : List Ev) : G := es.foldl stepFix g

/-- the sequential outcome: `k` grow calls, then the legacy call, then the remaining grow calls: the snapshot is `k` -/
def sequentialSnapshot (k : Nat) : Nat := k

def InvFix (g : G) : Prop :=
  g.s = g.grown ∧ (∀ v, g.lpc = .snapped v → False) ∧ (∀ v, g.lpc = .done v → v ≤ g.grown)

theorem invFix_step (g : G) (e : Ev) (h : InvFix g) : InvFix (stepFix g e) := by
  obtain ⟨hs, hsn, hd⟩ := h
  cases e with
  | grow => exact ⟨congrArg (· + 1) hs, hsn, fun v hv => Nat.le_succ_of_le (hd v hv)⟩
  | legacyStep =>
    cases hl : g.lpc with
    | start =>
      -- the snapshot taken now is `g.s`, the number of grow calls so far
      simp only [stepFix, hl]
      exact ⟨hs, nofun, fun v hv => by cases hv; exact Nat.le_of_eq hs⟩
    | snapped v => exact absurd hl (hsn v)
    | done v =>
      simp only [stepFix, hl]
      exact ⟨hs, hsn, hd⟩

def growsBeforeLegacy : List Ev → Nat
  | [] => 0
  | .grow :: es => growsBeforeLegacy es + 1
  | .legacyStep :: _ => 0

theorem runFix_done (es : List Ev) (g : G) (w : Nat) (h : g.lpc = .done w) : (runFix g es).lpc = .done w :=
  List.foldlRecOn (motive := fun g => g.lpc = .done w) es stepFix h fun g hg e _ => by
    cases e with
    | grow => exact hg
    | legacyStep => simp only [stepFix, hg]

/-- the snapshot recorded by the repaired wrapper equals the number of grow calls that completed
    before the legacy call's critical section — the sequential outcome for that position in the lock order -/
theorem fix_snapshot_is_sequential (es : List Ev) (g : G) (hs : g.lpc = .start) :
    ∀ v, (runFix g es).lpc = .done v → v = sequentialSnapshot (g.s + growsBeforeLegacy es) := by
  induction es generalizing g with
  | nil =>
    intro v hv
    rw [show (runFix g []).lpc = g.lpc from rfl, hs] at hv
    cases hv
  | cons e es ih =>
    intro v hv
    cases e with
    | grow =>
      rw [ih (stepFix g .grow) hs v hv]
      show g.s + 1 + growsBeforeLegacy es = g.s + (growsBeforeLegacy es + 1)
      omega
    | legacyStep =>
      -- the legacy call's critical section runs now: snapshot = g.s, and it never changes afterwards
      have h1 := runFix_done es (stepFix g .legacyStep) g.s (by simp only [stepFix, hs])
      rw [show runFix g (.legacyStep :: es) = runFix (stepFix g .legacyStep) es from rfl, h1] at hv
      cases hv
      rfl

/-- the defect: snapshot ahead of the lock. Schedule: the legacy call snapshots (0 entries), a grow call runs
    completely, the legacy call takes the lock and records -/
def badSchedule : List Ev := [.legacyStep, .grow, .legacyStep]

/-- a snapshot of 0 is recorded after one grow call, although the legacy call took the lock after it: sequentially
    (grow; legacy) the snapshot is 1, and the other order (legacy; grow) is not the order in which the locks were taken -/
theorem orig_records_stale_snapshot : (runOrig init badSchedule).lpc = .done 0 ∧ (runOrig init badSchedule).s = 1 := by decide

theorem fix_on_the_same_schedule : (runFix init badSchedule).lpc = .done 0 ∧ (runFix init [.grow, .legacyStep]).lpc = .done 1 := by decide

/-- the repaired wrapper, for every schedule: a recorded snapshot never exceeds the number of completed grow calls, which `s`
    equals (that it is the count at the call's place in the lock order is `fix_snapshot_is_sequential`) -/
theorem fix_snapshot_is_current (es : List Ev) :
    ∀ v, (runFix init es).lpc = .done v → v ≤ (runFix init es).grown ∧ (runFix init es).s = (runFix init es).grown := by
  intro v hv
  have h : InvFix (runFix init es) :=
    List.foldlRecOn es stepFix (motive := InvFix) ⟨rfl, nofun, nofun⟩ fun g hg e _ => invFix_step g e hg
  exact ⟨h.2.2 v hv, h.1⟩

end SyncPre
