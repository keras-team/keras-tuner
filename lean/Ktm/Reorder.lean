import Ktm.ListLemmas
/-! C16: the parent-first reordering added to `HyperParameters.from_proto` (repair of F10).
    Entries are identified by name + condition names; `names` = all names in the decoded space. -/
namespace Reorder

structure E where
  name : Nat
  conds : List Nat
  deriving DecidableEq, Repr

def isReady (names placed : List Nat) (e : E) : Bool :=
  e.conds.all (fun c => placed.contains c || !names.contains c)

/-- parents first (by name): a condition on a name that occurs in the space is preceded by an entry
    with that name -/
def WPF (names : List Nat) (l : List E) : Prop :=
  ∀ (pre : List E) (x : E) (post : List E), l = pre ++ x :: post →
    ∀ c ∈ x.conds, c ∈ names → c ∈ pre.map (·.name)

/-- the `while space:` loop: a round moves the ready entries of `sp` behind `ord`, or all of `sp` if none is ready
    (`ready or space`); out of fuel, what is left goes behind `ord` as it is. Only the order within a round is kept: on an
    input that is parents-first already a ready entry still overtakes an earlier one that waits (`[a, b|a, c] ↦ [a, c, b]`) -/
def reorder (names : List Nat) : Nat → List E → List E → List E
  | 0, ord, sp => ord ++ sp
  | _ + 1, ord, [] => ord
  | fuel + 1, ord, sp@(_ :: _) =>
    let r := sp.filter (isReady names (ord.map (·.name)))
    let r := if r = [] then sp else r
    reorder names fuel (ord ++ r) (sp.filter (fun e => !r.contains e))

theorem isReady_iff (names placed : List Nat) (e : E) :
    isReady names placed e = true ↔ ∀ c ∈ e.conds, c ∈ names → c ∈ placed := by
  simp only [isReady, List.all_eq_true, Bool.or_eq_true, Bool.not_eq_true', List.contains_eq_mem,
    decide_eq_true_eq, decide_eq_false_iff_not]
  exact forall₂_congr fun c _ => by rw [or_comm, Decidable.imp_iff_not_or]

theorem wpf_nil (names : List Nat) : WPF names [] :=
  fun _ _ _ he => nomatch (List.nil_eq_append_iff.mp he).2

theorem wpf_append_ready (names : List Nat) (ord r : List E) (h : WPF names ord)
    (hr : ∀ e ∈ r, isReady names (ord.map (·.name)) e = true) : WPF names (ord ++ r) := by
  induction r generalizing ord with
  | nil => rwa [List.append_nil]
  | cons a as ih =>
    rw [← List.singleton_append, ← List.append_assoc]
    -- `a` goes behind `ord`, which holds its parents; the others stay ready when more is placed
    refine ih (ord ++ [a]) (List.forall_split_append_singleton h ((isReady_iff ..).mp (hr a List.mem_cons_self))) fun e he => ?_
    rw [isReady_iff, List.map_append]
    exact fun c hc hn => List.mem_append_left _ ((isReady_iff ..).mp (hr e (List.mem_cons_of_mem _ he)) c hc hn)

/-- the ready entry: the first entry of `P` that has not been placed yet -/
theorem exists_ready (P ord sp : List E) (hP : WPF (P.map (·.name)) P)
    (hcover : ∀ e ∈ P, e ∈ ord ∨ e ∈ sp) (hsub : ∀ e ∈ sp, e ∈ P) (hne : sp ≠ []) :
    ∃ e ∈ sp, isReady (P.map (·.name)) (ord.map (·.name)) e = true := by
  obtain ⟨s, hs⟩ := List.exists_mem_of_ne_nil sp hne
  have hfind : (P.find? (fun e => decide (e ∈ sp))).isSome := List.find?_isSome.mpr ⟨s, hsub s hs, decide_eq_true hs⟩
  obtain ⟨x, hx⟩ := Option.isSome_iff_exists.mp hfind
  -- everything before `x` in `P` is no longer in `sp`, so it has been placed
  obtain ⟨hxs, pre, post, heq, hpre⟩ := List.find?_eq_some_iff_append.mp hx
  refine ⟨x, of_decide_eq_true hxs, (isReady_iff ..).mpr fun c hc hn => ?_⟩
  obtain ⟨p, hp, hpn⟩ := List.mem_map.mp (hP pre x post heq c hc hn)
  rcases hcover p (heq ▸ List.mem_append_left _ hp) with h' | h'
  · exact List.mem_map.mpr ⟨p, h', hpn⟩
  · exact absurd h' (by simpa only [Bool.not_eq_true', decide_eq_false_iff_not] using hpre p hp)

/-- a round on a remainder that holds a ready entry does not take the fallback branch -/
theorem reorder_succ (names : List Nat) (fuel : Nat) (ord sp : List E)
    (h : ∃ e ∈ sp, isReady names (ord.map (·.name)) e = true) :
    reorder names (fuel + 1) ord sp =
      reorder names fuel (ord ++ sp.filter (isReady names (ord.map (·.name))))
        (sp.filter fun e => !isReady names (ord.map (·.name)) e) := by
  obtain ⟨e0, he0, hr0⟩ := h
  cases sp with
  | nil => cases he0
  | cons a l =>
    have hne : (a :: l).filter (isReady names (ord.map (·.name))) ≠ [] :=
      List.ne_nil_of_mem (List.mem_filter.mpr ⟨he0, hr0⟩)
    simp only [reorder, hne, if_false]
    congr 1
    -- an entry of the remainder is in the ready batch iff it is ready
    refine List.filter_congr fun e he => ?_
    simp only [List.contains_eq_mem, List.mem_filter, he, true_and, Bool.decide_eq_true]

/-- `sp`: the entries in the decoder's order (grouped by type); `P`: the parents-first space they are the entries of.
    The fallback branch is never needed. -/
theorem reorder_spec (P : List E) (hP : WPF (P.map (·.name)) P) :
    ∀ (fuel : Nat) (ord sp : List E), sp.length ≤ fuel → WPF (P.map (·.name)) ord → (ord ++ sp).Perm P →
      (reorder (P.map (·.name)) fuel ord sp).Perm P ∧ WPF (P.map (·.name)) (reorder (P.map (·.name)) fuel ord sp) := by
  intro fuel
  induction fuel with
  | zero =>
    intro ord sp hlen hw hp
    have : sp = [] := List.eq_nil_of_length_eq_zero (Nat.le_zero.mp hlen)
    subst this
    rw [List.append_nil] at hp
    rw [reorder, List.append_nil]
    exact ⟨hp, hw⟩
  | succ fuel ih =>
    intro ord sp hlen hw hp
    cases sp with
    | nil =>
      rw [List.append_nil] at hp
      rw [reorder]
      exact ⟨hp, hw⟩
    | cons a l =>
      obtain ⟨e0, he0, hr0⟩ := exists_ready P ord (a :: l) hP (fun e he => List.mem_append.mp (hp.mem_iff.mpr he))
        (fun e he => hp.subset (List.mem_append_right _ he)) (List.cons_ne_nil a l)
      rw [reorder_succ _ fuel ord (a :: l) ⟨e0, he0, hr0⟩]
      -- the ready batch and what stays are together the old remainder, and the batch is not empty: what stays is shorter
      have hperm := List.filter_append_perm (isReady (P.map (·.name)) (ord.map (·.name))) (a :: l)
      have hpos := List.length_pos_of_mem (List.mem_filter.mpr ⟨he0, hr0⟩)
      have hsum := hperm.length_eq
      rw [List.length_append] at hsum
      exact ih _ _ (by omega) (wpf_append_ready _ ord _ hw fun e he => (List.mem_filter.mp he).2)
        (List.append_assoc .. ▸ (hperm.append_left ord).trans hp)

end Reorder
#print axioms Reorder.exists_ready
#print axioms Reorder.wpf_append_ready
#print axioms Reorder.reorder_spec
