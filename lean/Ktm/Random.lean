import Ktm.CoreOps
/-! C06: random sampling with the tried set (static space), over any value type. The external choice supplies
    the candidate samples of one `_random_values` call (already computed from the seeded draws);
    the model keeps the first `maxCollisions+1` of them and takes the first that was not tried. -/
namespace RandomAlg
open Core

structure St (V : Type) where
  tried : List V
  maxCollisions : Nat

variable {V : Type} [DecidableEq V]

/-- `_random_values`: resample on collision, give up after `maxCollisions + 1` collisions -/
def pick (tried : List V) : List V → Option V
  | [] => none
  | c :: cs => if tried.contains c then pick tried cs else some c

def populateWith (cands : Nat → List V) (o : Oracle V (St V)) (choice : Nat) : St V × Pop V :=
  match pick o.alg.tried ((cands choice).take (o.alg.maxCollisions + 1)) with
  | some v => ({ o.alg with tried := o.alg.tried ++ [v] }, .run v)
  | none => (o.alg, .stop)

def alg (cands : Nat → List V) : Alg V (St V) :=
  { populate := populateWith cands, onEnd := fun s _ => s, scoreOf := fun l => l.getLast?.join }

theorem pick_spec (tried cs : List V) (v : V) (h : pick tried cs = some v) : v ∈ cs ∧ v ∉ tried := by
  induction cs with
  | nil => cases h
  | cons c cs ih =>
    simp only [pick] at h
    split at h
    · obtain ⟨h1, h2⟩ := ih h
      exact ⟨List.mem_cons_of_mem _ h1, h2⟩
    · next hc =>
      cases h
      exact ⟨List.mem_cons_self, mt List.contains_iff_mem.mpr hc⟩

theorem populateWith_cases (cands : Nat → List V) (o : Oracle V (St V)) (c : Nat) :
    (∃ v, v ∉ o.alg.tried ∧ populateWith cands o c = ({ o.alg with tried := o.alg.tried ++ [v] }, .run v)) ∨
    populateWith cands o c = (o.alg, .stop) := by
  unfold populateWith
  cases hp : pick o.alg.tried ((cands c).take (o.alg.maxCollisions + 1)) with
  | none => exact Or.inr rfl
  | some v => exact Or.inl ⟨v, (pick_spec _ _ _ hp).2, rfl⟩

structure RInv (o : Oracle V (St V)) : Prop where
  recorded : ∀ (i : Nat) (t : Trial V), o.trials[i]? = some t → t.vals ∈ o.alg.tried
  distinct : (o.trials.map (·.vals)).Nodup

omit [DecidableEq V] in
theorem RInv.of_keep {o o' : Oracle V (St V)} (r : RInv o) (ha : o'.alg = o.alg)
    (hv : o'.trials.map (·.vals) = o.trials.map (·.vals)) : RInv o' := by
  refine ⟨fun i t' ht' => ?_, hv ▸ r.distinct⟩
  obtain ⟨t, ht, hv'⟩ := List.getElem?_of_map_eq hv ht'
  rw [ha, ← hv']
  exact r.recorded i t ht

/-- the new trial's values were not tried, and every stored trial's values were -/
theorem rinv_issue (cands : Nat → List V) (o : Oracle V (St V)) (r : RInv o) (t c : Nat) :
    RInv (issue o t (populateWith cands o c)).1 := by
  rcases populateWith_cases cands o c with ⟨v, hnt, hp⟩ | hp
  · rw [hp]
    refine ⟨fun i t' ht' => ?_, ?_⟩
    · rcases List.getElem?_concat_some ht' with h | ⟨_, rfl⟩
      · exact List.mem_append_left _ (r.recorded i t' h)
      · exact List.mem_concat_self
    · show ((o.trials ++ [_]).map Trial.vals).Nodup
      rw [List.map_append, List.map_singleton, List.nodup_append_singleton]
      refine ⟨r.distinct, fun hm => ?_⟩
      obtain ⟨t', ht', hv⟩ := List.mem_map.mp hm
      obtain ⟨i, hi⟩ := List.getElem?_of_mem ht'
      have hv : t'.vals = v := hv
      exact hnt (hv ▸ r.recorded i t' hi)
  · rw [hp]
    exact r.of_keep rfl rfl

theorem rinv_step (cands : Nat → List V) (o : Oracle V (St V)) (op : Op) (r : RInv o) : RInv (step (alg cands) o op).1 :=
  step_keeps (fun r ha hv _ => r.of_keep ha hv) (alg cands) o op
    (fun t c rask => rinv_issue cands (asking o t) rask t c) (fun _ _ _ _ => r.of_keep rfl (map_setTrial fun _ => rfl)) r

/-- C06: a newly started trial never repeats the values of an earlier one -/
theorem rinv_create (cands : Nat → List V) (o : Oracle V (St V)) (r : RInv o) (tuner c : Nat) :
    RInv (create (alg cands) o tuner c).1 :=
  rinv_step cands o (.create tuner c) r

end RandomAlg
#print axioms RandomAlg.rinv_create
