import Ktm.Hyperband
/-! C10: the successive-halving schedule with exact integer arithmetic (the code computes the same
    numbers with floats; the `hyperband` suite compares the two tables for every generated
    configuration). -/
namespace HB

/-- least `j` with `f^j ≥ m` (`⌈log_f m⌉`) -/
def clogAux (f m : Nat) : Nat → Nat → Nat → Nat
  | 0, j, _ => j
  | fuel + 1, j, p => if m ≤ p then j else clogAux f m fuel (j + 1) (p * f)
def clog (f m : Nat) : Nat := clogAux f m m 0 1

/-- number of `j ≥ 0` with `f^j ≤ m` (`_get_num_brackets`) -/
def nbAux (f m : Nat) : Nat → Nat → Nat → Nat
  | 0, j, _ => j
  | fuel + 1, j, p => if m < p then j else nbAux f m fuel (j + 1) (p * f)
def numBracketsOf (f m : Nat) : Nat := nbAux f m (m + 1) 0 1

/-- `_get_epochs`: `⌈max_epochs / factor^(bracket − round)⌉` -/
def epochsOf (m f b r : Nat) : Nat := (m + f ^ (b - r) - 1) / f ^ (b - r)

/-- `_get_size`: `⌈ ⌈1 + log_f m⌉ / (b + 1) · f^(b − r) ⌉` -/
def sizeOf (m f b r : Nat) : Nat := ((1 + clog f m) * f ^ (b - r) + b) / (b + 1)

def mkCfg (maxEpochs factor iterations : Nat) (minimize : Bool) : Cfg :=
  { size := sizeOf maxEpochs factor, epochs := epochsOf maxEpochs factor,
    numBrackets := numBracketsOf factor maxEpochs, iterations := iterations, minimize := minimize }

theorem size_pos (m f b : Nat) (hf : 1 ≤ f) : 0 < sizeOf m f b 0 := by
  have : 1 ≤ (1 + clog f m) * f ^ (b - 0) := Nat.mul_le_mul (Nat.le_add_right 1 _) (Nat.pow_pos hf)
  exact Nat.div_pos (by omega) (Nat.succ_pos b)

theorem epochsOf_le_iff (m b r : Nat) {f : Nat} (hf : 1 ≤ f) (e : Nat) : epochsOf m f b r ≤ e ↔ m ≤ e * f ^ (b - r) := by
  have hp : 0 < f ^ (b - r) := Nat.pow_pos hf
  rw [epochsOf, Nat.div_le_iff_le_mul_add_pred hp, Nat.mul_comm, Nat.add_sub_assoc hp, Nat.add_le_add_iff_right]

theorem epochs_is_ceil (m f b r : Nat) (hf : 1 ≤ f) :
    m ≤ epochsOf m f b r * f ^ (b - r) ∧ ∀ e, m ≤ e * f ^ (b - r) → epochsOf m f b r ≤ e :=
  ⟨(epochsOf_le_iff m b r hf _).mp (Nat.le_refl _), fun e => (epochsOf_le_iff m b r hf e).mpr⟩

/-- the last round of every bracket trains up to `max_epochs` -/
theorem epochs_last (m f b : Nat) (hf : 1 ≤ f) : epochsOf m f b b = m := by
  rw [epochsOf, Nat.sub_self, Nat.pow_zero, Nat.add_sub_cancel, Nat.div_one]

/-- a promoted trial starts where its parent stopped (`initial_epoch = epochs b (r−1) ≤ epochs b r`) -/
theorem epochs_mono (m f b r : Nat) (hf : 1 ≤ f) (_ : r + 1 ≤ b) :
    epochsOf m f b r ≤ epochsOf m f b (r + 1) :=
  -- what reaches `m` with the smaller power of `f` reaches it with the larger
  (epochsOf_le_iff m b r hf _).mpr (Nat.le_trans ((epochsOf_le_iff m b (r + 1) hf _).mp (Nat.le_refl _))
    (Nat.mul_le_mul_left _ (Nat.pow_le_pow_right hf (Nat.sub_le_sub_left (Nat.le_succ r) b))))

example : (List.range 3).map (fun b => (List.range (b + 1)).map (fun r => (sizeOf 4 2 b r, epochsOf 4 2 b r))) =
    [[(3, 4)], [(3, 2), (2, 4)], [(4, 1), (2, 2), (1, 4)]] ∧ numBracketsOf 2 4 = 3 := by decide

end HB
#print axioms HB.epochs_is_ceil
