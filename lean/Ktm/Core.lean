/-!
The generic oracle bookkeeping model (C01–C03).
`V` = type of hyperparameter values, `A` = algorithm state; a score is an `Option Int` (none = NaN).
-/
namespace Core

inductive Status | running | invalid | completed | failed
  deriving DecidableEq, Repr

structure Trial (V : Type) where
  vals : V
  status : Status
  runs : Nat
  score : Option Int
  reports : List (Option Int)   -- what the current run(s) reported (abstract metrics)
  deriving Repr

inductive Pop (V : Type) | run (v : V) | idle | stop

structure Oracle (V A : Type) where
  trials : List (Trial V)
  ongoing : List (Nat × Nat)    -- (tuner, trial id)
  retryQ : List Nat
  endOrder : List Nat
  tunerIds : List Nat
  maxTrials : Option Nat
  maxRetries : Nat
  maxConsec : Nat
  aborted : Bool
  alg : A

structure Alg (V A : Type) where
  populate : Oracle V A → Nat → A × Pop V     -- second argument: external choice
  onEnd : A → Nat → A
  scoreOf : List (Option Int) → Option Int    -- best value of the objective

inductive Out (V : Type) | trial (id : Nat) (v : V) | idle | stopped | ok | bad | abort

variable {V A : Type}

def holds (o : Oracle V A) (tuner : Nat) : Option Nat := o.ongoing.lookup tuner

def budgetReached (o : Oracle V A) : Bool :=
  match o.maxTrials with
  | some m => decide (m ≤ o.trials.length)
  | none => false

def setTrial (ts : List (Trial V)) (i : Nat) (f : Trial V → Trial V) : List (Trial V) := ts.modify i f

def addTuner (l : List Nat) (t : Nat) : List Nat := if l.contains t then l else l ++ [t]

def create (alg : Alg V A) (o : Oracle V A) (tuner : Nat) (choice : Nat) : Oracle V A × Out V :=
  match holds o tuner with
  | some id =>
    match o.trials[id]? with
    | some t => (o, .trial id t.vals)
    | none => (o, .bad)
  | none =>
    let o := { o with tunerIds := addTuner o.tunerIds tuner }
    match o.retryQ.getLast? with
    | some id =>
      match o.trials[id]? with
      | some t =>
        ({ o with trials := setTrial o.trials id (fun t => { t with status := .running }),
                  retryQ := o.retryQ.dropLast,
                  ongoing := o.ongoing ++ [(tuner, id)] }, .trial id t.vals)
      | none => (o, .bad)
    | none =>
      if budgetReached o then
        ({ o with tunerIds := o.tunerIds.erase tuner }, .stopped)
      else
        match alg.populate o choice with
        | (a, .run v) =>
          ({ o with alg := a,
                    trials := o.trials ++ [{ vals := v, status := .running, runs := 0, score := none, reports := [] }],
                    ongoing := o.ongoing ++ [(tuner, o.trials.length)] }, .trial o.trials.length v)
        | (a, .idle) => ({ o with alg := a }, .idle)
        | (a, .stop) => ({ o with alg := a, tunerIds := o.tunerIds.erase tuner }, .stopped)

def update (o : Oracle V A) (id : Nat) (r : Option Int) : Oracle V A × Out V :=
  match o.trials[id]? with
  | some _ => ({ o with trials := setTrial o.trials id (fun t => { t with reports := t.reports ++ [r] }) }, .ok)
  | none => (o, .bad)

inductive Outcome | completed | invalid | failed
  deriving DecidableEq

/-- does the status list contain `k` consecutive `failed`? (the scanning loop of the code) -/
def streakFrom (k : Nat) : Nat → List Status → Bool
  | _, [] => false
  | c, s :: rest =>
    let c' := if s = .failed then c + 1 else 0
    if c' = k then true else streakFrom k c' rest

def hasStreak (k : Nat) (l : List Status) : Bool := streakFrom k 0 l

def statusOf (ts : List (Trial V)) (i : Nat) : Status :=
  match ts[i]? with
  | some t => t.status
  | none => .running

def isOngoing (o : Oracle V A) (id : Nat) : Bool := o.ongoing.any (fun p => p.2 == id)

structure EndDecision where
  st : Status
  sc : Option Int
  retry : Bool

/-- status after the run: NaN score turns COMPLETED into INVALID; INVALID is retried below the
    run limit and FAILED at it (`_retry`) -/
def endDecision (alg : Alg V A) (maxRetries : Nat) (t : Trial V) (oc : Outcome) : EndDecision :=
  let sc : Option Int := if oc = .completed then alg.scoreOf t.reports else none
  let st0 : Status :=
    match oc with
    | .completed => if sc.isSome then .completed else .invalid
    | .invalid => .invalid
    | .failed => .failed
  if st0 = .invalid then
    if t.runs + 1 < maxRetries + 1 then ⟨.invalid, sc, true⟩ else ⟨.failed, sc, false⟩
  else ⟨st0, sc, false⟩

section
variable (alg : Alg V A) (m : Nat) (t : Trial V)

theorem endDecision_failed : endDecision alg m t .failed = ⟨.failed, none, false⟩ := rfl

theorem endDecision_invalid {oc : Outcome}
    (hinv : oc = .invalid ∨ (oc = .completed ∧ alg.scoreOf t.reports = none)) :
    endDecision alg m t oc = if t.runs + 1 < m + 1 then ⟨.invalid, none, true⟩ else ⟨.failed, none, false⟩ := by
  rcases hinv with rfl | ⟨rfl, hs⟩
  · rfl
  · simp [endDecision, hs]

theorem endDecision_completed {s : Int} (hs : alg.scoreOf t.reports = some s) :
    endDecision alg m t .completed = ⟨.completed, some s, false⟩ := by
  simp [endDecision, hs]

theorem outcome_cases (oc : Outcome) :
    oc = .failed ∨ (oc = .invalid ∨ (oc = .completed ∧ alg.scoreOf t.reports = none)) ∨
      (oc = .completed ∧ ∃ s, alg.scoreOf t.reports = some s) := by
  cases oc with
  | failed => exact .inl rfl
  | invalid => exact .inr (.inl (.inl rfl))
  | completed =>
    cases hs : alg.scoreOf t.reports with
    | none => exact .inr (.inl (.inr ⟨rfl, rfl⟩))
    | some s => exact .inr (.inr ⟨rfl, s, rfl⟩)

end

theorem endDecision_spec (alg : Alg V A) (m : Nat) (t : Trial V) (oc : Outcome) :
    let d := endDecision alg m t oc
    (d.retry = true → d.st = .invalid) ∧ (d.retry = false → d.st = .completed ∨ d.st = .failed) ∧
    (d.st = .completed → d.sc.isSome) := by
  dsimp only
  rcases outcome_cases alg t oc with rfl | hinv | ⟨rfl, s, hs⟩
  · rw [endDecision_failed]
    exact ⟨nofun, fun _ => .inr rfl, nofun⟩
  · rw [endDecision_invalid alg m t hinv]
    split
    · exact ⟨fun _ => rfl, nofun, nofun⟩
    · exact ⟨nofun, fun _ => .inr rfl, nofun⟩
  · rw [endDecision_completed alg m t hs]
    exact ⟨nofun, fun _ => .inl rfl, fun _ => rfl⟩

theorem endDecision_retry (alg : Alg V A) (m : Nat) (t : Trial V) {oc : Outcome}
    (h : (endDecision alg m t oc).retry = true) : t.runs + 1 < m + 1 := by
  rcases outcome_cases alg t oc with rfl | hinv | ⟨rfl, s, hs⟩
  · rw [endDecision_failed] at h; cases h
  · rw [endDecision_invalid alg m t hinv] at h
    split at h
    · assumption
    · cases h
  · rw [endDecision_completed alg m t hs] at h; cases h

/-- `end_trial` on the repaired code: metrics reset when queued for retry, ongoing entry dropped
    before saving (no observable difference at this level), abort keeps the entry (as the code). -/
def endT (alg : Alg V A) (o : Oracle V A) (id : Nat) (oc : Outcome) : Oracle V A × Out V :=
  match o.trials[id]? with
  | none => (o, .bad)
  | some t =>
    if !isOngoing o id then (o, .bad) else
    let d := endDecision alg o.maxRetries t oc
    if d.retry then
      ({ o with trials := setTrial o.trials id (fun t' => { t' with status := d.st, runs := t.runs + 1, score := d.sc, reports := [] }),
                retryQ := o.retryQ ++ [id],
                ongoing := o.ongoing.filter (fun p => p.2 != id),
                alg := alg.onEnd o.alg id }, .ok)
    else
      let trials' := setTrial o.trials id (fun t' => { t' with status := d.st, runs := t.runs + 1, score := d.sc })
      let endOrder' := o.endOrder ++ [id]
      if hasStreak o.maxConsec (endOrder'.map (statusOf trials')) then
        ({ o with trials := trials', endOrder := endOrder', aborted := true }, .abort)
      else
        ({ o with trials := trials', endOrder := endOrder',
                  ongoing := o.ongoing.filter (fun p => p.2 != id),
                  alg := alg.onEnd o.alg id }, .ok)

inductive Op | create (tuner choice : Nat) | update (id : Nat) (r : Option Int) | endT (id : Nat) (oc : Outcome)

def step (alg : Alg V A) (o : Oracle V A) : Op → Oracle V A × Out V
  | .create t c => create alg o t c
  | .update id r => update o id r
  | .endT id oc => endT alg o id oc

def run (alg : Alg V A) : Oracle V A → List Op → Oracle V A
  | o, [] => o
  | o, op :: ops =>
    let r := step alg o op
    match r.2 with
    | .abort => r.1
    | _ => run alg r.1 ops

def init (alg0 : A) (maxTrials : Option Nat) (maxRetries maxConsec : Nat) : Oracle V A :=
  { trials := [], ongoing := [], retryQ := [], endOrder := [], tunerIds := [],
    maxTrials := maxTrials, maxRetries := maxRetries, maxConsec := maxConsec, aborted := false, alg := alg0 }

end Core
