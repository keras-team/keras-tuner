import Ktm.CoreOps
import Ktm.HyperbandBracket
/-! Hyperband as a whole (C10, C11). `populate_space` works in two halves: it drops the complete brackets and, when the open ones
have no work and the sweep is not over, opens the next bracket (`Prep`); then it records at most one entry in one round (`addAt`).
`populate_cases` says so once; the bracket invariant (`HInv`), the sweep position (`SweepInv`) and the count of trials (`Within`)
are each shown to survive `closed`, `opened` and `addAt`, and then hold in every state any request list can reach: a request
changes the algorithm state through one `populate` or not at all, and adds a trial exactly when `populate` hands one out — that is
all these proofs know of `Core.step` (`step_preserves`). -/
namespace HB
open Core

def AllB (cfg : Cfg) (n : Nat) (brs : List Bracket) : Prop := ∀ b ∈ brs, BInv cfg n b

theorem allB_mono {cfg n brs} (h : AllB cfg n brs) : AllB cfg (n + 1) brs := fun b hb => (h b hb).mono

theorem allB_filter {cfg n brs} (p : Bracket → Bool) (h : AllB cfg n brs) : AllB cfg n (brs.filter p) :=
  fun b hb => h b (List.mem_filter.mp hb).1

/-- the open brackets: `populate_space` first drops the complete ones (`_remove_completed_brackets`) -/
def openBrs (s : St) : List Bracket := s.brackets.filter (fun b => !completeBracket s.cfg b)

def closed (s : St) : St := { s with brackets := openBrs s }

/-- the next bracket of the sweep opened (`_increment_bracket_num`, `_start_new_bracket`) -/
def opened (s : St) : St :=
  { s with brackets := openBrs s ++ [newBracket (nextBracket s).1],
           currentBracket := (nextBracket s).1, currentIteration := (nextBracket s).2 }

def addAt (s : St) (bi r : Nat) (e : Entry) : St :=
  { s with brackets := s.brackets.modify bi (fun b => addEntry b r e) }

def noWork (o : O) : Pop HV := if o.ongoing.isEmpty then .stop else .idle

theorem noWork_len (o : O) : (noWork o).len = 0 := by unfold noWork; split <;> rfl

theorem populate_random {o : O} {bi : Nat} {b : Bracket} (c : Nat) (hs : scan o o.alg.cfg 0 (openBrs o.alg) = .random bi)
    (hb : (openBrs o.alg)[bi]? = some b) : populate o c = randomIn o c (closed o.alg) bi b.num := by
  simp only [openBrs] at hs hb
  simp only [populate, hs, hb]
  rfl

theorem populate_promote {o : O} {bi r pid : Nat} {b : Bracket} {pt : Trial HV} (c : Nat)
    (hs : scan o o.alg.cfg 0 (openBrs o.alg) = .promote bi r pid) (hb : (openBrs o.alg)[bi]? = some b)
    (hpt : o.trials[pid]? = some pt) :
    populate o c = (addAt (closed o.alg) bi r ⟨o.trials.length, some pid⟩,
      .run ⟨pt.vals.base, o.alg.cfg.epochs b.num r, o.alg.cfg.epochs b.num (r - 1), b.num, r, some pid⟩) := by
  simp only [openBrs] at hs hb
  simp only [populate, hs, hb, hpt]
  rfl

theorem populate_none_end {o : O} (c : Nat) (hs : scan o o.alg.cfg 0 (openBrs o.alg) = .none)
    (hend : o.alg.currentBracket = 0 ∧ o.alg.currentIteration + 1 = o.alg.cfg.iterations) :
    populate o c = (closed o.alg, noWork o) := by
  simp only [openBrs] at hs
  simp only [populate, hs, if_pos hend]
  rfl

theorem populate_none_next {o : O} (c : Nat) (hs : scan o o.alg.cfg 0 (openBrs o.alg) = .none)
    (hgo : ¬(o.alg.currentBracket = 0 ∧ o.alg.currentIteration + 1 = o.alg.cfg.iterations)) :
    populate o c = randomIn o c (opened o.alg) (openBrs o.alg).length (nextBracket o.alg).1 := by
  simp only [openBrs] at hs
  simp only [populate, hs, if_neg hgo]
  rfl

/-- the state the second half of `populate_space` works on -/
inductive Prep (s : St) : St → Prop
  | keep : Prep s (closed s)
  | next : ¬(s.currentBracket = 0 ∧ s.currentIteration + 1 = s.cfg.iterations) → Prep s (opened s)

/-- everything `populate_space` can do. `rest` is also the answer when the sampler gave up (choice 0) although `scan` found a
    first round to fill. The two `.stop` answers `populate` gives for an index out of range or an unknown parent never occur: the
    index comes from `scan`, the parent from the candidates. A first round has room provided first rounds have places at all (the
    new bracket's is filled whatever its size). -/
inductive Move (o : O) : St × Pop HV → Prop
  | rest (s₁ : St) : Prep o.alg s₁ → Move o (s₁, noWork o)
  | fill (s₁ : St) (bi : Nat) (b : Bracket) (r0 : List Entry) (rest : List (List Entry)) (k : Nat) :
      Prep o.alg s₁ → s₁.brackets[bi]? = some b → b.rounds = r0 :: rest →
      (0 < o.alg.cfg.size b.num 0 → r0.length < o.alg.cfg.size b.num 0) →
      Move o (addAt s₁ bi 0 ⟨o.trials.length, none⟩, .run ⟨k, o.alg.cfg.epochs b.num 0, 0, b.num, 0, none⟩)
  | promote (bi j pid : Nat) (sc : Int) (b : Bracket) (prev cur : List Entry) (pt : Trial HV) :
      (openBrs o.alg)[bi]? = some b → b.rounds[j]? = some prev → b.rounds[j + 1]? = some cur →
      o.alg.cfg.size b.num j - o.alg.cfg.size b.num (j + 1) < (candidates o prev cur).length →
      bestOf o.alg.cfg.minimize (candidates o prev cur) = some (pid, sc) →
      o.trials[pid]? = some pt → pt.status = .completed →
      Move o (addAt (closed o.alg) bi (j + 1) ⟨o.trials.length, some pid⟩,
        .run ⟨pt.vals.base, o.alg.cfg.epochs b.num (j + 1), o.alg.cfg.epochs b.num j, b.num, j + 1, some pid⟩)

theorem Prep.cfg {s s₁ : St} (h : Prep s s₁) : s₁.cfg = s.cfg := by cases h <;> rfl

theorem randomIn_move (o : O) (c : Nat) (s₁ : St) (bi : Nat) (b : Bracket) (r0 : List Entry) (rest : List (List Entry))
    (hp : Prep o.alg s₁) (hb : s₁.brackets[bi]? = some b) (hr : b.rounds = r0 :: rest)
    (hroom : 0 < o.alg.cfg.size b.num 0 → r0.length < o.alg.cfg.size b.num 0) : Move o (randomIn o c s₁ bi b.num) := by
  cases c with
  | zero => exact .rest s₁ hp
  | succ k =>
    show Move o (addAt s₁ bi 0 _, .run ⟨k, s₁.cfg.epochs b.num 0, 0, b.num, 0, none⟩)
    rw [hp.cfg]
    exact .fill s₁ bi b r0 rest k hp hb hr hroom

theorem populate_cases (o : O) (c : Nat) : Move o (populate o c) := by
  cases hs : scan o o.alg.cfg 0 (openBrs o.alg) with
  | random bi =>
    obtain ⟨j, b, r0, rest, rfl, hb, hr, hlt⟩ := scan_random_spec o _ _ 0 bi hs
    rw [Nat.zero_add] at hs
    rw [populate_random c hs hb]
    exact randomIn_move o c _ j b r0 rest .keep hb hr (fun _ => hlt)
  | promote bi r pid =>
    obtain ⟨j, b, rfl, hb, htp⟩ := scan_promote_spec o _ _ 0 bi r pid hs
    obtain ⟨j', prev, cur, hr, hp, hc, hsz, sc, hbest⟩ := tryPromote_spec o _ b _ 0 r pid htp
    rw [Nat.zero_add] at hs hr hsz
    subst hr
    -- the parent is a candidate, so it has a record
    obtain ⟨_, _, pt, hpt, hst, _⟩ := mem_candidates o prev cur _ (bestOf_mem _ _ _ hbest)
    rw [populate_promote c hs hb hpt]
    exact .promote j j' pid sc b prev cur pt hb hp hc hsz hbest hpt hst
  | none =>
    by_cases hend : o.alg.currentBracket = 0 ∧ o.alg.currentIteration + 1 = o.alg.cfg.iterations
    · rw [populate_none_end c hs hend]; exact .rest _ .keep
    · rw [populate_none_next c hs hend]
      -- the new bracket is the last one; its first round is empty
      exact randomIn_move o c _ (openBrs o.alg).length (newBracket (nextBracket o.alg).1) []
        (List.replicate (nextBracket o.alg).1 []) (.next hend) List.getElem?_concat_length rfl
        (fun h => h)

theorem populate_idle (o : O) (c : Nat) (h : (populate o c).2 = .idle) : o.ongoing ≠ [] := by
  have hm := populate_cases o c
  generalize populate o c = r at hm h
  cases hm with
  | rest s₁ _ =>
    intro he
    simp only [noWork, he, List.isEmpty_nil, if_true] at h
    cases h
  | fill => cases h
  | promote => cases h

theorem Prep.allB {s s₁ : St} (h : Prep s s₁) {cfg : Cfg} {n : Nat} (hall : AllB cfg n s.brackets) : AllB cfg n s₁.brackets := by
  have hopen : AllB cfg n (openBrs s) := allB_filter _ hall
  cases h with
  | keep => exact hopen
  | next _ =>
    intro b hb
    rcases List.mem_append.mp hb with hb | hb
    · exact hopen b hb
    · rw [List.mem_singleton.mp hb]; exact binv_new _ _ _

theorem mem_addAt {s : St} {bi : Nat} {b : Bracket} (hb : s.brackets[bi]? = some b) (r : Nat) (e : Entry) :
    addEntry b r e ∈ (addAt s bi r e).brackets :=
  List.mem_of_getElem? (i := bi) ((List.getElem?_modify_eq _ _ _).trans (congrArg _ hb))

theorem mem_modify {α} (l : List α) (i : Nat) (f : α → α) (x : α) (h : x ∈ l.modify i f) :
    x ∈ l ∨ ∃ y, l[i]? = some y ∧ x = f y := by
  obtain ⟨k, hk⟩ := List.getElem?_of_mem h
  by_cases hik : i = k
  · rw [← hik, List.getElem?_modify_eq] at hk
    obtain ⟨y, hy, rfl⟩ := Option.map_eq_some_iff.mp hk
    exact Or.inr ⟨y, hy, rfl⟩
  · exact Or.inl (List.mem_of_getElem? (List.getElem?_modify_ne f l hik ▸ hk))

theorem allB_addAt {cfg : Cfg} {n : Nat} {s : St} (hall : AllB cfg n s.brackets) {bi : Nat} {b : Bracket}
    (hb : s.brackets[bi]? = some b) {r : Nat} {e : Entry} (hnew : BInv cfg (n + 1) (addEntry b r e)) :
    AllB cfg (n + 1) (addAt s bi r e).brackets := by
  intro b' hb'
  rcases mem_modify _ _ _ _ hb' with h | ⟨y, hy, rfl⟩
  · exact (hall b' h).mono
  · rw [hb] at hy
    cases hy
    exact hnew

structure HInv (cfg : Cfg) (o : O) : Prop where
  cfg_eq : o.alg.cfg = cfg
  allB : AllB cfg o.trials.length o.alg.brackets

/-- `HInv` as a predicate of the two things it reads, the algorithm state and the number of trials (the form `step_preserves` takes) -/
def Sched (cfg : Cfg) (s : St) (n : Nat) : Prop := s.cfg = cfg ∧ AllB cfg n s.brackets

theorem Move.sched {o : O} {r : St × Pop HV} (h : Move o r) {cfg : Cfg} (hs : Sched cfg o.alg o.trials.length)
    (hpos : ∀ b, 0 < cfg.size b 0) : Sched cfg r.1 (o.trials.length + r.2.len) := by
  obtain ⟨rfl, hall⟩ := hs
  cases h with
  | rest s₁ hp => rw [noWork_len]; exact ⟨hp.cfg, hp.allB hall⟩
  | fill s₁ bi b r0 rest k hp hb hr hroom =>
    exact ⟨hp.cfg, allB_addAt (hp.allB hall) hb
      (binv_add_random _ _ b (hp.allB hall b (List.mem_of_getElem? hb)) r0 rest hr (hroom (hpos _)))⟩
  | promote bi j pid sc b prev cur pt hb hp hc hsz hbest hpt hst =>
    have hB : BInv o.alg.cfg o.trials.length b := Prep.keep.allB hall b (List.mem_of_getElem? hb)
    exact ⟨rfl, allB_addAt (Prep.keep.allB hall) hb (binv_add_promote o _ _ b hB j pid prev cur hp hc hsz sc hbest)⟩

theorem hinv_init (cfg : Cfg) : HInv cfg (init cfg) :=
  ⟨rfl, fun b hb => by rw [List.mem_singleton.mp hb]; exact binv_new _ _ _⟩

theorem hinv_step (cfg : Cfg) (o : O) (h : HInv cfg o) (hpos : ∀ b, 0 < cfg.size b 0) (op : Op) :
    HInv cfg (step alg o op).1 :=
  have := step_preserves (P := Sched cfg) alg (fun o c h => (populate_cases o c).sched h hpos) (fun _ _ _ h => h) o op
    ⟨h.cfg_eq, h.allB⟩
  ⟨this.1, this.2⟩

theorem hinv_reachable (cfg : Cfg) (o : O) (h : HInv cfg o) (hpos : ∀ b, 0 < cfg.size b 0) (ops : List Op) :
    HInv cfg (run alg o ops) :=
  run_invariant alg (fun o op h => hinv_step cfg o h hpos op) o ops h

#print axioms HB.hinv_reachable

/-- what a call of `populate` may answer, with the facts the C10 theorems need -/
inductive PopSpec (o : O) : St × Pop HV → Prop
  | random (s' : St) (v : HV) (b : Bracket) :
      s'.cfg = o.alg.cfg → AllB o.alg.cfg (o.trials.length + 1) s'.brackets →
      v.round = 0 → v.initialEpoch = 0 → v.parent = none → v.epochs = o.alg.cfg.epochs v.bracket 0 →
      (∃ b' ∈ s'.brackets, b'.num = v.bracket ∧ ∃ l, b'.rounds[0]? = some l ∧ ⟨o.trials.length, none⟩ ∈ l) →
      PopSpec o (s', .run v)
  | promote (s' : St) (v : HV) (pid : Nat) :
      s'.cfg = o.alg.cfg → AllB o.alg.cfg (o.trials.length + 1) s'.brackets →
      1 ≤ v.round → v.parent = some pid →
      v.epochs = o.alg.cfg.epochs v.bracket v.round → v.initialEpoch = o.alg.cfg.epochs v.bracket (v.round - 1) →
      (∃ pt, o.trials[pid]? = some pt ∧ pt.status = .completed ∧ pt.vals.base = v.base) →
      (∃ b' ∈ s'.brackets, b'.num = v.bracket ∧ ∃ l, b'.rounds[v.round]? = some l ∧ ⟨o.trials.length, some pid⟩ ∈ l) →
      PopSpec o (s', .run v)
  | idle (s' : St) : s'.cfg = o.alg.cfg → AllB o.alg.cfg o.trials.length s'.brackets →
      o.ongoing ≠ [] → PopSpec o (s', .idle)
  | stop (s' : St) : s'.cfg = o.alg.cfg → AllB o.alg.cfg o.trials.length s'.brackets → PopSpec o (s', .stop)

theorem populate_spec (o : O) (choice : Nat) (hall : AllB o.alg.cfg o.trials.length o.alg.brackets)
    (hpos : ∀ b, 0 < o.alg.cfg.size b 0) :
    PopSpec o (populate o choice) := by
  have h := populate_cases o choice
  have hs := h.sched ⟨rfl, hall⟩ hpos
  generalize populate o choice = r at h hs
  cases h with
  | rest s₁ hp =>
    unfold noWork
    split
    next => exact .stop s₁ hp.cfg (hp.allB hall)
    next he => exact .idle s₁ hp.cfg (hp.allB hall) (fun h => he (by rw [h]; rfl))
  | fill s₁ bi b r0 rest k hp hb hr hroom =>
    have h0 : b.rounds[0]? = some r0 := by rw [hr]; rfl
    exact .random _ _ b hs.1 hs.2 rfl rfl rfl rfl
      ⟨_, mem_addAt hb _ _, rfl, _, (addEntry_round h0 _ _ _).mpr (Or.inl ⟨rfl, rfl⟩), List.mem_concat_self⟩
  | promote bi j pid sc b prev cur pt hb hp hc hsz hbest hpt hst =>
    exact .promote _ _ pid hs.1 hs.2 (Nat.le_add_left 1 j) rfl rfl rfl ⟨pt, hpt, hst, rfl⟩
      ⟨_, mem_addAt hb _ _, rfl, _, (addEntry_round hc _ _ _).mpr (Or.inl ⟨rfl, rfl⟩), List.mem_concat_self⟩

#print axioms HB.populate_spec

theorem create_fresh_spec (o : O) (cfg : Cfg) (h : HInv cfg o) (hpos : ∀ b, 0 < cfg.size b 0) (tuner c : Nat) :
    HInv cfg (create alg o tuner c).1 ∧
    (∀ v, (create alg o tuner c).2 = .trial o.trials.length v →
      PopSpec { o with tunerIds := addTuner o.tunerIds tuner } ((create alg o tuner c).1.alg, .run v)) ∧
    ((create alg o tuner c).2 = .idle → o.ongoing ≠ []) := by
  refine ⟨hinv_step cfg o h hpos (.create tuner c), fun v hv => ?_, fun hi => ?_⟩
  · -- a fresh id: `create` asked `populate`, and its new algorithm state is `populate`'s
    obtain ⟨hh, hq, hb, a, hp⟩ := create_fresh alg o tuner c hv
    have hspec : PopSpec (asking o tuner) (alg.populate (asking o tuner) c) :=
      populate_spec _ c (h.cfg_eq ▸ h.allB) (h.cfg_eq ▸ hpos)
    rw [hp] at hspec
    rw [create_ask alg o tuner c hh hq hb, hp]
    exact hspec
  · obtain ⟨a, hp⟩ := create_eq_idle alg o tuner c hi
    exact populate_idle (asking o tuner) c (congrArg Prod.snd hp)

/-- the two `.run` cases of `PopSpec` as one statement with the round a variable: what C10 and C05 say of a freshly issued trial -/
theorem PopSpec.labels {o : O} {s' : St} {v : HV} (h : PopSpec o (s', .run v)) {cfg : Cfg} (hc : o.alg.cfg = cfg) :
    v.epochs = cfg.epochs v.bracket v.round ∧
    v.initialEpoch = (if v.round = 0 then 0 else cfg.epochs v.bracket (v.round - 1)) ∧
    (∃ b' ∈ s'.brackets, BInv cfg (o.trials.length + 1) b' ∧ b'.num = v.bracket ∧
      ∃ l, b'.rounds[v.round]? = some l ∧ ⟨o.trials.length, v.parent⟩ ∈ l) ∧
    (v.round = 0 → v.parent = none) ∧
    (1 ≤ v.round → ∃ pid pt, v.parent = some pid ∧ o.trials[pid]? = some pt ∧ pt.status = .completed ∧ pt.vals.base = v.base) := by
  subst hc
  cases h with
  | random _ _ b _ hall hr hi hp he hrec =>
    obtain ⟨b', hb', hrec⟩ := hrec
    rw [hr, hp]
    exact ⟨he, hi, ⟨b', hb', hall b' hb', hrec⟩, fun _ => rfl, fun h1 => absurd h1 (Nat.not_succ_le_zero 0)⟩
  | promote _ _ pid _ hall hr hp he hi hpar hrec =>
    obtain ⟨b', hb', hrec⟩ := hrec
    obtain ⟨pt, hpar⟩ := hpar
    rw [hp, if_neg (Nat.ne_of_gt hr)]
    exact ⟨he, hi, ⟨b', hb', hall b' hb', hrec⟩, fun h0 => absurd h0 (Nat.ne_of_gt hr), fun _ => ⟨pid, pt, rfl, hpar⟩⟩

/-! C11 / C08 — the sweep position of the Hyperband oracle. `(_current_iteration, _current_bracket)` starts at
`(0, numBrackets − 1)`, is changed by `populate_space` only, and only by one step of `_increment_bracket_num` taken when the
stop test `_current_bracket == 0 and _current_iteration + 1 == hyperband_iterations` is false. Hence, in every reachable state,
`_current_iteration < hyperband_iterations` and `_current_bracket < numBrackets`, the position `iteration · numBrackets +
(numBrackets − 1 − bracket)` never decreases and grows by at most one per request: at most `iterations · numBrackets` brackets are
ever opened. -/

def pos (s : St) : Nat := s.currentIteration * s.cfg.numBrackets + (s.cfg.numBrackets - 1 - s.currentBracket)

structure SweepInv (cfg : Cfg) (s : St) : Prop where
  cfg_eq : s.cfg = cfg
  br : s.currentBracket < cfg.numBrackets
  it : s.currentIteration < cfg.iterations

theorem nextBracket_zero {s : St} (h : s.currentBracket = 0) :
    nextBracket s = (s.cfg.numBrackets - 1, s.currentIteration + 1) := if_pos h

theorem nextBracket_succ {s : St} {k : Nat} (h : s.currentBracket = k + 1) : nextBracket s = (k, s.currentIteration) := by
  rw [nextBracket, if_neg (by rw [h]; exact Nat.succ_ne_zero k), h]; rfl

theorem sub_succ_add_one {a b : Nat} (h : b + 1 ≤ a) : a - (b + 1) + 1 = a - b := by
  rw [← Nat.sub_add_comm h, Nat.add_sub_add_right]

/-- the equation is `pos (opened s) = pos s + 1`, written out -/
theorem nextBracket_pos (s : St) (cfg : Cfg) (h : SweepInv cfg s)
    (hgo : ¬(s.currentBracket = 0 ∧ s.currentIteration + 1 = s.cfg.iterations)) :
    (nextBracket s).1 < cfg.numBrackets ∧ (nextBracket s).2 < cfg.iterations ∧
    (nextBracket s).2 * cfg.numBrackets + (cfg.numBrackets - 1 - (nextBracket s).1) =
      s.currentIteration * cfg.numBrackets + (cfg.numBrackets - 1 - s.currentBracket) + 1 := by
  obtain ⟨rfl, hb, hi⟩ := h
  cases hk : s.currentBracket with
  | zero =>
    -- bracket 0 is done: the next sweep starts at the top, one full row of brackets further
    simp only [nextBracket_zero hk]
    refine ⟨Nat.sub_lt (Nat.zero_lt_of_lt hb) Nat.one_pos, Nat.lt_of_le_of_ne hi (fun e => hgo ⟨hk, e⟩), ?_⟩
    rw [Nat.succ_mul, Nat.sub_self, Nat.sub_zero, Nat.add_zero, Nat.add_assoc, Nat.sub_add_cancel (Nat.zero_lt_of_lt hb)]
  | succ k =>
    simp only [nextBracket_succ hk]
    rw [hk] at hb
    refine ⟨Nat.lt_of_succ_lt hb, hi, ?_⟩
    rw [Nat.add_assoc, sub_succ_add_one (Nat.le_sub_one_of_lt hb)]

theorem pos_bound (cfg : Cfg) (s : St) (h : SweepInv cfg s) : pos s < cfg.iterations * cfg.numBrackets := by
  obtain ⟨rfl, hb, hi⟩ := h
  -- below the end of the current row of brackets, which is one of `iterations` rows
  exact Nat.lt_of_lt_of_le (Nat.add_lt_add_left (Nat.sub_one_sub_lt hb) _)
    (Nat.succ_mul _ _ ▸ Nat.mul_le_mul_right _ hi)

theorem opened_sweep {s : St} {cfg : Cfg} (hs : SweepInv cfg s)
    (hgo : ¬(s.currentBracket = 0 ∧ s.currentIteration + 1 = s.cfg.iterations)) :
    SweepInv cfg (opened s) ∧ pos (opened s) = pos s + 1 := by
  obtain ⟨h1, h2, h3⟩ := nextBracket_pos s cfg hs hgo
  exact ⟨⟨hs.cfg_eq, h1, h2⟩, by simp only [pos, opened, hs.cfg_eq]; exact h3⟩

theorem Prep.sweep {s s₁ : St} (h : Prep s s₁) {cfg : Cfg} (hs : SweepInv cfg s) :
    SweepInv cfg s₁ ∧ (pos s₁ = pos s ∨ pos s₁ = pos s + 1) := by
  cases h with
  | keep => exact ⟨⟨hs.cfg_eq, hs.br, hs.it⟩, Or.inl rfl⟩
  | next hgo => exact ⟨(opened_sweep hs hgo).1, Or.inr (opened_sweep hs hgo).2⟩

theorem sweep_addAt {cfg : Cfg} {s : St} (h : SweepInv cfg s) (bi r : Nat) (e : Entry) : SweepInv cfg (addAt s bi r e) :=
  ⟨h.cfg_eq, h.br, h.it⟩

theorem Move.sweep {o : O} {r : St × Pop HV} (h : Move o r) {cfg : Cfg} (hs : SweepInv cfg o.alg) :
    SweepInv cfg r.1 ∧ (pos r.1 = pos o.alg ∨ pos r.1 = pos o.alg + 1) := by
  cases h with
  | rest s₁ hp => exact hp.sweep hs
  | fill s₁ bi b r0 rest k hp => exact ⟨sweep_addAt (hp.sweep hs).1 _ _ _, (hp.sweep hs).2⟩
  | promote => exact ⟨sweep_addAt (Prep.keep.sweep hs).1 _ _ _, Or.inl rfl⟩

theorem sweep_init (cfg : Cfg) (hnb : 0 < cfg.numBrackets) (hit : 0 < cfg.iterations) : SweepInv cfg (init cfg).alg :=
  ⟨rfl, Nat.sub_lt hnb Nat.one_pos, hit⟩

theorem sweep_step (cfg : Cfg) (o : O) (h : SweepInv cfg o.alg) (op : Op) :
    SweepInv cfg (step alg o op).1.alg ∧
    (pos (step alg o op).1.alg = pos o.alg ∨ pos (step alg o op).1.alg = pos o.alg + 1) := by
  rcases step_alg alg o op with ⟨ha, _⟩ | ⟨id, ha, _⟩ | ⟨t, c, ha, _⟩
  · rw [ha]; exact ⟨h, Or.inl rfl⟩
  · rw [ha]; exact ⟨h, Or.inl rfl⟩
  · rw [ha]; exact (populate_cases (asking o t) c).sweep h

/-- from the start of a search: in every state any request list can reach, fewer than `iterations · numBrackets` forward steps of the
    sweep position have been taken — at most `iterations · numBrackets` brackets are ever opened, the initial one included -/
theorem brackets_opened_bounded (cfg : Cfg) (hnb : 0 < cfg.numBrackets) (hit : 0 < cfg.iterations) (ops : List Op) :
    pos (run alg (init cfg) ops).alg < cfg.iterations * cfg.numBrackets ∧
    (run alg (init cfg) ops).alg.currentIteration < cfg.iterations :=
  have h : SweepInv cfg (run alg (init cfg) ops).alg :=
    run_preserves (P := fun s _ => SweepInv cfg s) alg (fun o c h => ((populate_cases o c).sweep h).1) (fun _ _ _ h => h) _ ops
      (sweep_init cfg hnb hit)
  ⟨pos_bound cfg _ h, h.it⟩

#print axioms HB.brackets_opened_bounded

/-! C11 — the number of trials of a Hyperband search is bounded by its schedule. `cap b` = free places of bracket `b` (scheduled
sizes minus entries, over its rounds). With `M` a bound on the places of one bracket, the trials handed out so far plus the free
places of the open brackets never exceed `M` for every bracket opened so far (`Within`): a new bracket brings at most `M` places
and moves the position on by one, a trial handed out takes one free place, dropping a complete bracket frees nothing. The position
stays below `iterations · numBrackets` (`pos_bound`). -/

def capR (cfg : Cfg) (num : Nat) : Nat → List (List Entry) → Nat
  | _, [] => 0
  | r, x :: xs => (cfg.size num r - x.length) + capR cfg num (r + 1) xs

def cap (cfg : Cfg) (b : Bracket) : Nat := capR cfg b.num 0 b.rounds

def caps (cfg : Cfg) (bs : List Bracket) : Nat := (bs.map (cap cfg)).sum

theorem capR_modify (cfg : Cfg) (num : Nat) (e : Entry) (rounds : List (List Entry)) (k r : Nat) (x : List Entry)
    (h : rounds[r]? = some x) (hroom : x.length + 1 ≤ cfg.size num (k + r)) :
    capR cfg num k (rounds.modify r (fun l => l ++ [e])) + 1 = capR cfg num k rounds := by
  induction rounds generalizing k r with
  | nil => cases h
  | cons y ys ih =>
    cases r with
    | zero =>
      cases h
      simp only [List.modify_zero_cons, capR, List.length_append, List.length_singleton]
      rw [Nat.add_right_comm, sub_succ_add_one (a := cfg.size num k) hroom]
    | succ r =>
      simp only [List.modify_succ_cons, capR]
      rw [Nat.add_assoc, ih (k + 1) r h (by rw [Nat.add_right_comm]; exact hroom)]

theorem caps_filter_le (cfg : Cfg) (p : Bracket → Bool) (bs : List Bracket) : caps cfg (bs.filter p) ≤ caps cfg bs := by
  -- the brackets kept and the brackets dropped together are all of them
  have h := ((List.filter_append_perm p bs).map (cap cfg)).sum_nat
  rw [List.map_append, List.sum_append_nat] at h
  exact Nat.le.intro h

theorem caps_concat (cfg : Cfg) (bs : List Bracket) (b : Bracket) : caps cfg (bs ++ [b]) = caps cfg bs + cap cfg b := by
  rw [caps, List.map_append, List.sum_append_nat]; rfl

theorem caps_modify (cfg : Cfg) (f : Bracket → Bracket) (bs : List Bracket) (bi : Nat) (b : Bracket)
    (h : bs[bi]? = some b) (hf : cap cfg (f b) + 1 = cap cfg b) : caps cfg (bs.modify bi f) + 1 = caps cfg bs := by
  induction bs generalizing bi with
  | nil => cases h
  | cons y ys ih =>
    cases bi with
    | zero =>
      cases h
      simp only [List.modify_zero_cons, caps, List.map_cons, List.sum_cons]
      rw [Nat.add_right_comm, hf]
    | succ bi =>
      simp only [List.modify_succ_cons, caps, List.map_cons, List.sum_cons]
      rw [Nat.add_assoc]
      exact congrArg (_ + ·) (ih bi h)

def Within (cfg : Cfg) (M : Nat) (s : St) (n : Nat) : Prop := n + caps cfg s.brackets ≤ (pos s + 1) * M

theorem Prep.within {s s₁ : St} (h : Prep s s₁) {cfg : Cfg} {M n : Nat} (hs : SweepInv cfg s)
    (hM : ∀ num, num < cfg.numBrackets → cap cfg (newBracket num) ≤ M) (hw : Within cfg M s n) : Within cfg M s₁ n := by
  have hw' : n + caps cfg (openBrs s) ≤ (pos s + 1) * M := Nat.le_trans (Nat.add_le_add_left (caps_filter_le _ _ _) n) hw
  cases h with
  | keep => exact hw'
  | next hgo =>
    obtain ⟨hs₁, e⟩ := opened_sweep hs hgo
    show n + caps cfg (openBrs s ++ [newBracket (nextBracket s).1]) ≤ (pos (opened s) + 1) * M
    rw [caps_concat, e, Nat.succ_mul, ← Nat.add_assoc]
    exact Nat.add_le_add hw' (hM _ hs₁.br)

theorem within_addAt {cfg : Cfg} {M n : Nat} {s : St} {bi r : Nat} {b : Bracket} {l : List Entry} (hb : s.brackets[bi]? = some b)
    (hl : b.rounds[r]? = some l) (hroom : l.length < cfg.size b.num r) (e : Entry) (hw : Within cfg M s n) :
    Within cfg M (addAt s bi r e) (n + 1) := by
  show n + 1 + caps cfg (s.brackets.modify bi _) ≤ (pos s + 1) * M
  -- the entry takes one free place of its round, hence of its bracket
  rw [Nat.add_assoc, Nat.add_comm 1, caps_modify cfg (fun b => addEntry b r e) s.brackets bi b hb
    (capR_modify cfg b.num e b.rounds 0 r l hl (by rw [Nat.zero_add]; exact hroom))]
  exact hw

theorem Move.within {o : O} {r : St × Pop HV} (h : Move o r) {cfg : Cfg} {M : Nat} (hi : Sched cfg o.alg o.trials.length)
    (hs : SweepInv cfg o.alg) (hpos : ∀ b, 0 < cfg.size b 0) (hM : ∀ num, num < cfg.numBrackets → cap cfg (newBracket num) ≤ M)
    (hw : Within cfg M o.alg o.trials.length) : Within cfg M r.1 (o.trials.length + r.2.len) := by
  obtain ⟨rfl, hall⟩ := hi
  cases h with
  | rest s₁ hp =>
    rw [noWork_len]; exact hp.within hs hM hw
  | fill s₁ bi b r0 rest k hp hb hr hroom =>
    exact within_addAt hb (show b.rounds[0]? = some r0 by rw [hr]; rfl) (hroom (hpos _)) _ (hp.within hs hM hw)
  | promote bi j pid sc b prev cur pt hb hp hc hsz hbest hpt hst =>
    have hB : BInv o.alg.cfg o.trials.length b := Prep.keep.allB hall b (List.mem_of_getElem? hb)
    exact within_addAt (s := closed o.alg) hb hc (promote_room hB hp hc hsz) _ (Prep.keep.within hs hM hw)

/-- with `M` a bound on the places of one bracket (`Σ_r size(b, r)`), every state any request list can reach holds at most
    `iterations · numBrackets · M` trials -/
theorem trials_bounded (cfg : Cfg) (M : Nat) (hnb : 0 < cfg.numBrackets) (hit : 0 < cfg.iterations)
    (hpos : ∀ b, 0 < cfg.size b 0) (hM : ∀ num, num < cfg.numBrackets → cap cfg (newBracket num) ≤ M) (ops : List Op) :
    (run alg (init cfg) ops).trials.length ≤ cfg.iterations * cfg.numBrackets * M := by
  have h0 : Within cfg M (init cfg).alg (init cfg).trials.length := by
    -- no trial yet, one bracket open, position 0
    show 0 + (cap cfg (newBracket (cfg.numBrackets - 1)) + 0) ≤
      (0 * cfg.numBrackets + (cfg.numBrackets - 1 - (cfg.numBrackets - 1)) + 1) * M
    rw [Nat.zero_mul, Nat.sub_self, Nat.one_mul, Nat.zero_add, Nat.add_zero]
    exact hM _ (Nat.sub_lt hnb Nat.one_pos)
  -- bracket invariant, sweep invariant and the count together are kept by `populate`
  obtain ⟨_, hs, hw⟩ := run_preserves (P := fun s n => Sched cfg s n ∧ SweepInv cfg s ∧ Within cfg M s n) alg
    (fun o c ⟨h1, h2, h3⟩ =>
      have hm := populate_cases o c
      ⟨hm.sched h1 hpos, (hm.sweep h2).1, hm.within h1 h2 hpos hM h3⟩)
    (fun _ _ _ h => h) _ ops ⟨⟨rfl, (hinv_init cfg).allB⟩, sweep_init cfg hnb hit, h0⟩
  exact Nat.le_trans (Nat.le_trans (Nat.le_add_right _ _) hw) (Nat.mul_le_mul_right M (pos_bound cfg _ hs))

end HB
#print axioms HB.trials_bounded
