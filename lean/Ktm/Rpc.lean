import Ktm.Reorder
import Ktm.Core
/-! C16: what the chief/worker layer adds to the oracle: the space decoder (entries regrouped by type, then
    reordered parents-first) and the chief's exit condition over the set of client tuner ids. -/
namespace Rpc
open Reorder

/-- `HyperParameters.from_proto` on the space; `sp` is the order in which the decoder lists the entries (grouped by type) -/
def decodeSpace (names : List Nat) (sp : List E) : List E := reorder names sp.length [] sp

theorem decode_parents_first (P sp : List E) (hP : WPF (P.map (·.name)) P) (hperm : sp.Perm P) :
    (decodeSpace (P.map (·.name)) sp).Perm P ∧ WPF (P.map (·.name)) (decodeSpace (P.map (·.name)) sp) :=
  reorder_spec P hP sp.length [] sp (Nat.le_refl _) (wpf_nil _) hperm

open Core
variable {V A : Type}

/-- `exit_chief`: no trial is running and every client that asked has been told STOPPED -/
def exitChief (o : Oracle V A) : Bool := o.ongoing.isEmpty && o.tunerIds.isEmpty

end Rpc
#print axioms Rpc.decode_parents_first
