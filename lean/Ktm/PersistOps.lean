import Ktm.Persist
import Ktm.ListLemmas
/-! C07/C08: which files every operation writes, in which order; every prefix of the write sequence of
    every operation leaves a disk that is consistent (`DiskOK`) with the state before or after it. -/
namespace Core
variable {V A : Type}

/-- an atomic whole-file write -/
inductive W | trial (id : Nat) | oracle
  deriving DecidableEq, Repr

def applyW (o' : Oracle V A) (d : Disk V A) : W → Disk V A
  | .trial id => writeTrial d o' id
  | .oracle => writeOracle d o'

/-- the file writes of an operation, in order (`create_trial`: trial file then oracle file for a new
    trial, oracle file only when a retry is served; `update_trial`: the trial file; `end_trial`: trial
    file then oracle file; an aborting `end_trial` raises before it writes) -/
def writesOf (alg : Alg V A) (o : Oracle V A) (op : Op) : List W :=
  let r := step alg o op
  match op with
  | .create _ _ =>
      if o.trials.length < r.1.trials.length then [.trial o.trials.length, .oracle]
      else if r.1.retryQ.length < o.retryQ.length then [.oracle] else []
  | .update id _ => [.trial id]
  | .endT id _ => match r.2 with | .ok => [.trial id, .oracle] | _ => []

/-- the operation with its first `k` writes reaching the disk (crash injection; `k` large = no crash) -/
def stepD (alg : Alg V A) (k : Nat) (s : Oracle V A × Disk V A) (op : Op) : Oracle V A × Disk V A :=
  let r := step alg s.1 op
  (r.1, ((writesOf alg s.1 op).take k).foldl (applyW r.1) s.2)

theorem diskOK_rewrite (o : Oracle V A) (d : Disk V A) (hd : DiskOK o d) (id : Nat) (t : Trial V)
    (ht : o.trials[id]? = some t) : DiskOK o (writeTrial d o id) :=
  diskOK_writeTrial hd o id (fun t' ht' => ⟨t', ht', rfl, fun _ => rfl⟩)

theorem prefixes_two {α β : Type} (f : β → α → β) (d : β) (a b : α) {P Q : β → Prop}
    (h0 : P d) (h1 : P (f d a)) (h2 : Q (f (f d a) b)) (k : Nat) :
    (P (([a, b].take k).foldl f d) ∨ Q (([a, b].take k).foldl f d)) ∧ (2 ≤ k → Q (([a, b].take k).foldl f d)) := by
  match k with
  | 0 => exact ⟨Or.inl h0, fun hk => absurd hk (by decide)⟩
  | 1 => exact ⟨Or.inl h1, fun hk => absurd hk (by decide)⟩
  | k + 2 =>
    rw [List.take_succ_cons, List.take_succ_cons, List.take_nil]
    exact ⟨Or.inr h2, fun _ => h2⟩

theorem prefixes_one {α β : Type} (f : β → α → β) (d : β) (a : α) {P Q : β → Prop}
    (h0 : P d) (h1 : Q (f d a)) (k : Nat) :
    (P (([a].take k).foldl f d) ∨ Q (([a].take k).foldl f d)) ∧ (1 ≤ k → Q (([a].take k).foldl f d)) := by
  match k with
  | 0 => exact ⟨Or.inl h0, fun hk => absurd hk (by decide)⟩
  | k + 1 =>
    rw [List.take_succ_cons, List.take_nil]
    exact ⟨Or.inr h1, fun _ => h1⟩

/-- the crash points of a non-aborting `end_trial`; `o'` covers both shapes of its new state (queued again, ended) -/
theorem end_crash_points (o : Oracle V A) (d : Disk V A) (hd : DiskOK o d) (id : Nat)
    (hon : id ∈ o.ongoing.map (·.2)) (f : Trial V → Trial V) (hf : ∀ t, (f t).vals = t.vals)
    (rq eo : List Nat) (a : A) :
    let o' : Oracle V A := { o with trials := setTrial o.trials id f, retryQ := rq, endOrder := eo,
                                     ongoing := o.ongoing.filter (fun p => p.2 != id), alg := a }
    -- crash before the first write: old state; after the trial-file write: still the old state;
    -- after the oracle-file write: the new state
    DiskOK o d ∧ DiskOK o (writeTrial d o' id) ∧ DiskOK o' (writeOracle (writeTrial d o' id) o') := by
  intro o'
  refine ⟨hd, trial_then_oracle hd hd.tfiles (touch_setTrial_filter rfl rfl) (fun t hti => ?_)⟩
  exact ⟨f t, getElem?_setTrial_of_some f hti, hf t, fun hni => absurd hon hni⟩

/-- `update_trial`: the record of trial `id` changes (values kept), nothing else; one trial-file write -/
theorem update_crash_points (o : Oracle V A) (d : Disk V A) (hd : DiskOK o d) (id : Nat) (r : Option Int) :
    DiskOK (update o id r).1 (writeTrial d (update o id r).1 id) := by
  cases ht : o.trials[id]? with
  | none =>
    rw [update_none o id r ht]
    exact diskOK_writeTrial hd o id (fun t hti => ⟨t, hti, rfl, fun _ => rfl⟩)
  | some t =>
    rw [update_some o id r ht]
    obtain ⟨a, ha⟩ := hd.ofile
    refine ⟨⟨a, ?_⟩, filesOK_writeTrial (touch_update o id _) hd.tfiles⟩
    -- the oracle file holds the run counts and the number of trials: a report changes neither
    simp only [writeTrial, ha, ofileOf, length_setTrial]
    rw [map_setTrial]
    exact fun _ => rfl

theorem writesOf_create (alg : Alg V A) (o : Oracle V A) (t c : Nat) :
    writesOf alg o (.create t c) =
      if o.trials.length < (create alg o t c).1.trials.length then [.trial o.trials.length, .oracle]
      else if (create alg o t c).1.retryQ.length < o.retryQ.length then [.oracle] else [] := rfl

theorem writesOf_endT (alg : Alg V A) (o : Oracle V A) (id : Nat) (oc : Outcome) :
    writesOf alg o (.endT id oc) = match (endT alg o id oc).2 with | .ok => [.trial id, .oracle] | _ => [] := rfl

/-- crash points of `create_trial`, for a process whose disk is consistent with `b` and whose trial files are right for its
    memory `o`: `b = o`, or, just after a restart, `b` is the state the crash left -/
theorem create_crash_points (alg : Alg V A) (b o : Oracle V A) (d : Disk V A) (hb : DiskOK b d) (hf : FilesOK o d)
    (hlen : b.trials.length ≤ o.trials.length) (tuner c k : Nat) :
    let r := create alg o tuner c
    let d' := (stepD alg k (o, d) (.create tuner c)).2
    (DiskOK b d' ∨ DiskOK r.1 d') ∧
    (2 ≤ k → DiskOK r.1 d' ∨ (d' = d ∧ ∃ a tids, r.1 = { o with alg := a, tunerIds := tids })) := by
  simp only [stepD, step, writesOf_create]
  -- by cases on what `create` returns, the case at hand kept as an equation `he`
  refine create_cases_coarse alg o tuner c (motive := fun x => create alg o tuner c = x → _) ?same ?retry ?fresh rfl
  case same =>
    intro a tids out _ he
    rw [he, if_neg (Nat.lt_irrefl _), if_neg (Nat.lt_irrefl _), List.take_nil, List.foldl_nil]
    exact ⟨Or.inl hb, fun _ => Or.inr ⟨rfl, a, tids, rfl⟩⟩
  case retry =>
    -- the oracle file only: the re-issued trial is ongoing now, its stale file has the right values
    intro rid t _ hq htr he
    obtain ⟨htouch, hself, hon⟩ := touch_reissue o tuner rid htr
    have hnew : DiskOK (reissue (asking o tuner) tuner rid) (writeOracle d (reissue (asking o tuner) tuner rid)) := by
      refine diskOK_writeOracle (filesOK_touch htouch hf (fun _ _ => rfl) fun t' ht' => ?_)
      obtain ⟨f, hf', hv, _⟩ := hf rid t htr
      obtain rfl := Option.some.inj (hself.symm.trans ht')
      exact ⟨f, hf', hv, fun hni => absurd hon hni⟩
    have hw : (reissue (asking o tuner) tuner rid).retryQ.length < o.retryQ.length :=
      List.length_dropLast ▸ Nat.sub_lt (List.length_pos_of_mem (List.mem_of_getLast? hq)) Nat.one_pos
    have hsame : ¬ o.trials.length < (reissue (asking o tuner) tuner rid).trials.length :=
      (length_setTrial ..).symm ▸ Nat.lt_irrefl _
    rw [he, if_neg hsame, if_pos hw]
    have hpre := prefixes_one (applyW (reissue (asking o tuner) tuner rid)) d .oracle (P := DiskOK b) hb hnew k
    exact ⟨hpre.1, fun hk => Or.inl (hpre.2 (Nat.le_of_succ_le hk))⟩
  case fresh =>
    -- the file of the new trial — an id `b` does not know — then the oracle file
    intro a v _ _ he
    obtain ⟨htouch, _, _, hlen'⟩ := touch_issue o tuner a v
    obtain ⟨h1, h2⟩ := trial_then_oracle hb hf htouch
      (fun t hbt => absurd (List.lt_length_of_getElem? hbt) (Nat.not_lt.mpr hlen))
    rw [he, if_pos (hlen' ▸ Nat.lt_succ_self _)]
    have hpre := prefixes_two (applyW (issue (asking o tuner) tuner (a, .run v)).1) d (.trial o.trials.length) .oracle
      (P := DiskOK b) hb h1 h2 k
    exact ⟨hpre.1, fun hk => Or.inl (hpre.2 hk)⟩

/-- C08, every crash point of every operation: `k` of its writes have reached the disk (`2 ≤ k`: all of them) -/
theorem step_crash_points (alg : Alg V A) (o : Oracle V A) (d : Disk V A) (hd : DiskOK o d) (op : Op) (k : Nat) :
    let r := step alg o op
    let d' := (stepD alg k (o, d) op).2
    (DiskOK o d' ∨ (r.2 ≠ .abort ∧ DiskOK r.1 d')) ∧ (2 ≤ k → r.2 ≠ .abort → DiskOK r.1 d') := by
  cases op with
  | create t c =>
    obtain ⟨h1, h2⟩ := create_crash_points alg o o d hd hd.tfiles (Nat.le_refl _) t c k
    refine ⟨h1.imp_right (fun h => ⟨create_not_abort alg o t c, h⟩), fun hk _ => ?_⟩
    rcases h2 hk with h | ⟨hd', a, tids, hr⟩
    · exact h
    · -- `DiskOK` reads neither `alg` nor `tunerIds`
      rw [hd', show (step alg o (.create t c)).1 = _ from hr]
      exact ⟨hd.ofile, hd.tfiles⟩
  | update id r =>
    have h1 := update_crash_points o d hd id r
    have hpre := prefixes_one (applyW (update o id r).1) d (.trial id) (P := DiskOK o) hd h1 k
    exact ⟨hpre.1.imp_right (fun h => ⟨update_not_abort o id r, h⟩), fun hk _ => hpre.2 (Nat.le_of_succ_le hk)⟩
  | endT id oc =>
    simp only [stepD, step, writesOf_endT]
    refine endT_cases alg o id oc (motive := fun x => endT alg o id oc = x → _) ?bad ?abort ?settled rfl
    case bad =>
      intro _ he
      rw [he, List.take_nil, List.foldl_nil]
      exact ⟨Or.inl hd, fun _ _ => hd⟩
    case abort =>
      intro t dec ht hon hr hs he
      rw [he, List.take_nil, List.foldl_nil]
      exact ⟨Or.inl hd, fun _ hna => absurd rfl hna⟩
    case settled =>
      intro t dec ht hon hspare hfin he
      obtain ⟨_, h1, h2⟩ := end_crash_points o d hd id hon (dec.record (t.runs + 1)) (fun _ => rfl)
        (if dec.retry then o.retryQ ++ [id] else o.retryQ) (if dec.retry then o.endOrder else o.endOrder ++ [id])
        (alg.onEnd o.alg id)
      rw [he]
      have hpre := prefixes_two (applyW (settle alg o id (t.runs + 1) dec)) d (.trial id) .oracle (P := DiskOK o)
        hd h1 h2 k
      exact ⟨hpre.1.imp_right (fun h => ⟨nofun, h⟩), fun hk _ => hpre.2 hk⟩

/-- a run of complete operations (all writes reach the disk), stopping at an abort like `run` -/
def runD (alg : Alg V A) (s : Oracle V A × Disk V A) : List Op → Oracle V A × Disk V A
  | [] => s
  | op :: ops =>
    match (step alg s.1 op).2 with
    | .abort => stepD alg 2 s op
    | _ => runD alg (stepD alg 2 s op) ops

theorem runD_cons_abort (alg : Alg V A) (s : Oracle V A × Disk V A) (op : Op) (ops : List Op)
    (h : (step alg s.1 op).2 = .abort) : runD alg s (op :: ops) = stepD alg 2 s op := by
  simp only [runD, h]

theorem runD_cons (alg : Alg V A) (s : Oracle V A × Disk V A) (op : Op) (ops : List Op)
    (h : (step alg s.1 op).2 ≠ .abort) : runD alg s (op :: ops) = runD alg (stepD alg 2 s op) ops := by
  -- `simp` discharges the side condition of `runD`'s second equation with `h`
  simp only [runD]

theorem runD_fst (alg : Alg V A) (s : Oracle V A × Disk V A) (ops : List Op) :
    (runD alg s ops).1 = run alg s.1 ops := by
  induction ops generalizing s with
  | nil => rfl
  | cons op ops ih =>
    rcases abort_or_ne (step alg s.1 op).2 with h | h
    · rw [runD_cons_abort alg s op ops h, run_cons_abort alg s.1 op ops h]
      rfl
    · rw [runD_cons alg s op ops h, run_cons alg s.1 op ops h, ih]
      rfl

theorem runD_ok (alg : Alg V A) (s : Oracle V A × Disk V A) (ops : List Op) (h : Inv s.1) (hd : DiskOK s.1 s.2) :
    (Inv (runD alg s ops).1 ∧ DiskOK (runD alg s ops).1 (runD alg s ops).2) ∨ (runD alg s ops).1.aborted = true := by
  induction ops generalizing s with
  | nil => exact Or.inl ⟨h, hd⟩
  | cons op ops ih =>
    rcases abort_or_ne (step alg s.1 op).2 with hab | hab
    · rw [runD_cons_abort alg s op ops hab]
      exact Or.inr (step_abort alg s.1 op hab)
    · rw [runD_cons alg s op ops hab]
      exact ih _ (inv_step alg s.1 op h hab) ((step_crash_points alg s.1 s.2 hd op 2).2 (Nat.le_refl 2) hab)

theorem reload_reissues_last (alg : Alg V A) (o cfg : Oracle V A) (d : Disk V A) (hd : DiskOK o d)
    (hcfg : cfg.maxTrials = o.maxTrials ∧ cfg.maxRetries = o.maxRetries ∧ cfg.maxConsec = o.maxConsec ∧
      cfg.aborted = o.aborted)
    (id : Nat) (t : Trial V) (hlast : (o.retryQ ++ o.ongoing.map (·.2)).getLast? = some id) (ht : o.trials[id]? = some t)
    (tuner' c : Nat) :
    ∃ r, reload cfg d = some r ∧ (create alg r tuner' c).2 = .trial id t.vals ∧ r.trials.length = o.trials.length := by
  obtain ⟨ts', a, hr, hlen, hget, _⟩ := reload_of_diskOK o cfg d hd hcfg
  obtain ⟨t', hti, hv, _⟩ := hget id t ht
  refine ⟨_, hr, ?_, hlen⟩
  -- nothing is held after a reload, so the request is served from the queue
  rw [create_retry alg (requeueWith o ts' a) tuner' c rfl hlast hti, hv]

/-- C19, resume -/
theorem resume_reissues_interrupted (alg : Alg V A) (o cfg : Oracle V A) (d : Disk V A) (hd : DiskOK o d)
    (hcfg : cfg.maxTrials = o.maxTrials ∧ cfg.maxRetries = o.maxRetries ∧ cfg.maxConsec = o.maxConsec ∧ cfg.aborted = o.aborted)
    (tuner id : Nat) (t : Trial V) (hon : o.ongoing = [(tuner, id)]) (ht : o.trials[id]? = some t) (tuner' c : Nat) :
    ∃ r, reload cfg d = some r ∧ (create alg r tuner' c).2 = .trial id t.vals ∧
      r.trials.length = o.trials.length :=
  reload_reissues_last alg o cfg d hd hcfg id t (by simp [hon]) ht tuner' c

end Core
#print axioms Core.end_crash_points
#print axioms Core.step_crash_points
#print axioms Core.runD_ok
#print axioms Core.resume_reissues_interrupted
