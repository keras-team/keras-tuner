import Ktm.NanEpoch
/-! C20/C18: `SaveBestEpoch` (strict `better_than` from ±inf) and the History post-processing
    (`_get_best_value_and_best_epoch_from_history`) select the same epoch: the first one attaining the
    minimum. Values are `Int` in the "minimise" frame (maximising = minimising the negation).
    That the scan ends at the first minimum is `NanEpoch.scan_spec`: a curve of numbers is a curve
    with NaN epochs that happens to have none. -/
namespace BestEpoch

/-- epochs at which the callback writes the weights; `best = none` encodes the initial ±inf -/
def saves : List Int → Option Int → Nat → List Nat
  | [], _, _ => []
  | v :: vs, none, e => e :: saves vs (some v) (e + 1)
  | v :: vs, some b, e => if v < b then e :: saves vs (some v) (e + 1) else saves vs (some b) (e + 1)

/-- History post-processing: start with epoch 0, move only on strictly better -/
def histBest : List Int → Nat → Int → Nat → Nat
  | [], bi, _, _ => bi
  | v :: vs, bi, bv, e => if v < bv then histBest vs e v (e + 1) else histBest vs bi bv (e + 1)

def histBestEpoch : List Int → Option Nat
  | [] => none
  | v :: vs => some (histBest vs 0 v 1)

theorem saves_last (vs : List Int) (b : Int) (bi e : Nat) :
    ((saves vs (some b) e).getLast?).getD bi = histBest vs bi b e := by
  induction vs generalizing b bi e with
  | nil => rfl
  | cons v vs ih =>
    simp only [saves, histBest]
    split
    · rw [List.getLast?_cons, Option.getD_some]; exact ih v e (e + 1)
    · exact ih b bi (e + 1)

/-- the kept checkpoint (last write) is the epoch the History post-processing reports -/
theorem callback_eq_history (curve : List Int) (h : curve ≠ []) :
    (saves curve none 0).getLast? = histBestEpoch curve := by
  cases curve with
  | nil => exact absurd rfl h
  | cons v vs => rw [saves, histBestEpoch, List.getLast?_cons, saves_last]

def FirstMin (l : List Int) (i : Nat) : Prop :=
  ∃ v : Int, l[i]? = some v ∧ (∀ (j : Nat) (w : Int), l[j]? = some w → v ≤ w) ∧ (∀ (j : Nat) (w : Int), j < i → l[j]? = some w → v < w)

theorem scan_map_some (vs : List Int) (bi : Nat) (bv : Int) (e : Nat) :
    (NanEpoch.scan (vs.map some) bi (some bv) e).1 = histBest vs bi bv e := by
  induction vs generalizing bi bv e with
  | nil => rfl
  | cons v vs ih =>
    simp only [List.map_cons, NanEpoch.scan, NanEpoch.better, histBest, decide_eq_true_eq]
    split <;> exact ih ..

theorem histBestEpoch_first (curve : List Int) (h : curve ≠ []) :
    ∃ i, histBestEpoch curve = some i ∧ FirstMin curve i := by
  cases curve with
  | nil => exact absurd rfl h
  | cons v vs =>
    obtain ⟨i, m', hi, hget, hmin, hfirst⟩ := NanEpoch.best_epoch_ignores_nan v (vs.map some)
    have key : ∀ {j : Nat} {w : Int}, ((v :: vs).map some)[j]? = some (some w) ↔ (v :: vs)[j]? = some w := by
      intro j w
      rw [List.getElem?_map]
      cases (v :: vs)[j]? <;> simp
    refine ⟨i, ?_, m', key.mp hget, fun j w hj => hmin j w (key.mpr hj), fun j w hlt hj => hfirst j w hlt (key.mpr hj)⟩
    rw [histBestEpoch, ← scan_map_some]
    simp only [NanEpoch.bestEpoch, Option.some.injEq] at hi
    rw [hi]

/-- C20: for every finite curve (all executions of a trial concatenated, since one callback instance
    is shared) the weights kept on disk are those of the first epoch attaining the best value. -/
theorem kept_is_first_best (curve : List Int) (h : curve ≠ []) :
    ∃ i, (saves curve none 0).getLast? = some i ∧ FirstMin curve i := by
  rw [callback_eq_history curve h]
  exact histBestEpoch_first curve h

end BestEpoch
#print axioms BestEpoch.kept_is_first_best
