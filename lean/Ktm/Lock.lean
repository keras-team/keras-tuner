/-! A lock variable `l : Option Nat` and the program counters `pc : Nat → Pc` of the threads that compete for it, tied by
    "`l = some t` iff thread `t` is at a counter satisfying `P`". The models of the `synchronized` wrapper (`Sync`, `SyncMulti`)
    state their invariants in this form; a step of one thread preserves it in one of three ways. -/
namespace Lock
variable {Pc : Type} {P : Pc → Prop} {l : Option Nat} {pc : Nat → Pc}

def Owned (P : Pc → Prop) (l : Option Nat) (pc : Nat → Pc) : Prop := ∀ t, l = some t ↔ P (pc t)

theorem Owned.mutex (h : Owned P l pc) {t u : Nat} (ht : P (pc t)) (hu : P (pc u)) : t = u :=
  Option.some.inj (((h t).mpr ht).symm.trans ((h u).mpr hu))

theorem Owned.free (h : Owned P l pc) (hn : ∀ t, ¬ P (pc t)) : l = none :=
  match l, h with
  | none, _ => rfl
  | some t, h => absurd ((h t).mp rfl) (hn t)

theorem forall_update {Q : Nat → Pc → Prop} {t : Nat} {p : Pc} (h : ∀ u, u ≠ t → Q u (pc u)) (hp : Q t p) :
    ∀ u, Q u (if u = t then p else pc u) := by
  intro u
  by_cases hu : u = t
  · rw [if_pos hu, hu]
    exact hp
  · rw [if_neg hu]
    exact h u hu

/-- (`q` and `hq`, here and in `release`: callers have them from `generalize hq : pc t = q` and case on `q`) -/
theorem Owned.keep (h : Owned P l pc) {t : Nat} {p q : Pc} (hq : pc t = q) (hp : P p ↔ P q) :
    Owned P l (fun u => if u = t then p else pc u) :=
  forall_update (Q := fun u p => l = some u ↔ P p) (fun u _ => h u) ((h t).trans (hq ▸ hp.symm))

theorem Owned.acquire (h : Owned P l pc) (hl : l = none) (t : Nat) {p : Pc} (hp : P p) :
    Owned P (some t) (fun u => if u = t then p else pc u) :=
  -- the lock was free, so no other thread is at a counter satisfying `P`
  forall_update (Q := fun u p => some t = some u ↔ P p)
    (fun u hu => ⟨fun e => absurd (Option.some.inj e).symm hu, fun hc => nomatch hl.symm.trans ((h u).mpr hc)⟩)
    ⟨fun _ => hp, fun _ => rfl⟩

theorem Owned.release (h : Owned P l pc) {t : Nat} {p q : Pc} (hq : pc t = q) (ht : P q) (hp : ¬ P p) :
    Owned P none (fun u => if u = t then p else pc u) :=
  forall_update (Q := fun u p => none = some u ↔ P p)
    (fun _ hu => ⟨nofun, fun hc => absurd (h.mutex hc (hq ▸ ht)) hu⟩) ⟨nofun, fun hc => absurd hc hp⟩

end Lock
