import Ktm.Core
import Ktm.GridSucc
/-! C09 prototype: grid search as an `Alg` over the core oracle (static space). -/
namespace Grid
open Core GridSucc

structure St where
  space : List GHP
  ordered : List Nat     -- `_ordered_ids` as the list of ids in linked-list order
  queue : List Nat       -- `_populate_next`

abbrev O := Oracle Env St

/-- id following `i` in the ordered list -/
def succOf : List Nat → Nat → Option Nat
  | [], _ => none
  | [_], _ => none
  | a :: b :: rest, i => if a = i then some b else succOf (b :: rest) i

def insertAfter : List Nat → Nat → Nat → List Nat
  | [], _, x => [x]
  | a :: rest, i, x => if a = i then a :: x :: rest else a :: insertAfter rest i x

def valsOf (o : O) (i : Nat) : Option Env := (o.trials[i]?).map (·.vals)

/-- `_compare` restricted to what the static case needs: equal assignments compare as 0 (covered);
    the code's full lexicographic comparison is modelled in the real development -/
def covered (new nxt : Env) : Bool := new == nxt

/-- the `while` loop over `_populate_next` -/
def scanQueue (o : O) (s : St) : List Nat → List Nat × Option (Nat × Env)
  | [] => ([], none)
  | i :: q =>
    match valsOf o i with
    | none => scanQueue o s q
    | some old =>
      match next s.space [] old with
      | none => scanQueue o s q
      | some new =>
        match succOf s.ordered i with
        | some nid =>
          match valsOf o nid with
          | some nv => if covered new nv then scanQueue o s q else (q, some (i, new))
          | none => (q, some (i, new))
        | none => (q, some (i, new))

def populate (o : O) (_choice : Nat) : St × Pop Env :=
  let s := o.alg
  let newId := o.trials.length
  if o.trials.length = 0 then
    ({ s with ordered := s.ordered ++ [newId], queue := s.queue ++ [newId] }, .run (first s.space []))
  else
    match scanQueue o s s.queue with
    | (q, some (i, new)) => ({ s with ordered := insertAfter s.ordered i newId, queue := q }, .run new)
    | (q, none) => ({ s with queue := q }, if o.ongoing.isEmpty then .stop else .idle)

def alg : Alg Env St :=
  { populate := populate, onEnd := fun s id => { s with queue := s.queue ++ [id] },
    scoreOf := fun l => l.getLast?.join }

def init (space : List GHP) : O :=
  Core.init (V := Env) { space := space, ordered := [], queue := [] } none 0 1000

-- smoke test: conditional space, sequential run
def demoSpace : List GHP := [⟨0, [0,1], []⟩, ⟨1, [5,6], [(0,[1])]⟩, ⟨2, [3,4], []⟩]
def demo : Nat → O → List (Option Env) → List (Option Env)
  | 0, _, acc => acc.reverse
  | fuel + 1, o, acc =>
    let r := Core.step alg o (.create 0 0)
    match r.2 with
    | .trial id v =>
      let r2 := Core.step alg r.1 (.update id (some 1))
      let r3 := Core.step alg r2.1 (.endT id .completed)
      demo fuel r3.1 (some v :: acc)
    | _ => (none :: acc).reverse
#eval demo 10 (init demoSpace) []
#eval enum demoSpace []

end Grid
