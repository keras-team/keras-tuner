import Ktm.CoreOps
import Ktm.GridInv
/-! C09: every request keeps the grid invariant, so it holds in every state reachable by any request list (static space),
    and a STOPPED answer means the grid is used up. -/
namespace Grid
open Core GridSucc

theorem populate_space (o : O) (c : Nat) : (populate o c).1.space = o.alg.space := by
  rcases populate_cases o c with ⟨_, hp⟩ | ⟨_, q, i, new, _, hp⟩ | ⟨_, q, _, ⟨_, hp⟩ | ⟨_, hp⟩⟩ <;>
    exact congrArg (·.1.space) hp

/-- emptying the queue is harmless: then nothing is left to issue or the last issued trial is running -/
theorem ginv_issue (o : O) (hs : SpaceOK o.alg.space) (g : GInv o) (t c : Nat) :
    GInv (issue o t (populate o c)).1 := by
  rcases populate_spec o hs g c with ⟨v, s', hp, hv, hsp, hord, hq⟩ | ⟨hp, _, hge⟩ | ⟨hp, hrun⟩
  · rw [hp]
    have hlen : (issue o t (s', .run v)).1.trials.length = o.trials.length + 1 := List.length_append
    refine ⟨fun i t' ht' => ?_, hlen ▸ hord, hlen ▸ hq, fun _ _ => Or.inr ?_⟩
    · show (enum s'.space [])[i]? = some t'.vals
      rw [hsp]
      rcases List.getElem?_concat_some ht' with h | ⟨rfl, rfl⟩
      · exact g.vals i t' h
      · exact hv
    · show (issue o t (s', .run v)).1.trials.length - 1 ∈ (o.ongoing ++ [(t, o.trials.length)]).map (·.2)
      rw [hlen, Nat.add_sub_cancel]
      exact List.mem_map_of_mem List.mem_concat_self
  · rw [hp]
    exact ⟨g.vals, g.ordered, nofun, fun _ hlt => absurd hge (Nat.not_le_of_lt hlt)⟩
  · rw [hp]
    exact ⟨g.vals, g.ordered, nofun, fun _ hlt => Or.inr (hrun hlt)⟩

/-- a trial taken out of the ongoing list is put on the queue -/
theorem ginv_settle (o : O) (g : GInv o) {id : Nat} {t : Trial Env} (ht : o.trials[id]? = some t) (d : EndDecision) :
    GInv (settle alg o id (t.runs + 1) d) := by
  have hid : id < o.trials.length := List.lt_length_of_getElem? ht
  have hvals : (settle alg o id (t.runs + 1) d).trials.map (·.vals) = o.trials.map (·.vals) :=
    map_setTrial fun _ => rfl
  have hlen : (settle alg o id (t.runs + 1) d).trials.length = o.trials.length := length_setTrial ..
  refine ⟨fun i t' ht' => ?_, hlen ▸ g.ordered, fun i hi => ?_, fun h0 hlt => ?_⟩
  · obtain ⟨t0, ht0, hv⟩ := List.getElem?_of_map_eq hvals ht'
    exact hv ▸ g.vals i t0 ht0
  · rw [hlen]
    rcases List.mem_append.mp hi with h | h
    · exact g.queue_lt i h
    · rw [List.mem_singleton.mp h]; exact hid
  · rw [hlen] at h0 hlt ⊢
    rcases g.last_pending h0 hlt with h | h
    · exact Or.inl (List.mem_append_left _ h)
    · by_cases he : o.trials.length - 1 = id
      · exact Or.inl (List.mem_append_right _ (List.mem_singleton.mpr he))
      · exact Or.inr (List.mem_map_filter_ne.mpr ⟨h, he⟩)

theorem ginv_step (o : O) (hs : SpaceOK o.alg.space) (g : GInv o) (op : Op) : GInv (step alg o op).1 :=
  step_keeps (fun g => g.of_keep) alg o op (fun t c gask => ginv_issue (asking o t) hs gask t c)
    (fun _ _ d ht => ginv_settle o g ht d) g

/-- grid search without a trial limit answers STOPPED only when every combination has been issued; nothing is
    running and no retry waits then -/
theorem stopped_complete (o : O) (hs : SpaceOK o.alg.space) (g : GInv o) (hmax : o.maxTrials = none)
    (tuner c : Nat) (hout : (create alg o tuner c).2 = .stopped) :
    o.trials.map (·.vals) = enum o.alg.space [] ∧ o.ongoing = [] ∧ o.retryQ = [] := by
  obtain ⟨_, hrq, hb | ⟨a, hpa⟩⟩ := create_eq_stopped alg o tuner c hout
  · rw [budgetReached, hmax] at hb; cases hb
  · rcases populate_spec (asking o tuner) hs (g.of_keep rfl rfl (fun _ h => h)) c with ⟨v, s', hp, _⟩ | ⟨_, hon, hge⟩ | ⟨hp, _⟩
    · cases hp.symm.trans hpa
    · exact ⟨g.isPrefix.eq_of_length_le (List.length_map Trial.vals ▸ hge), hon, hrq⟩
    · cases hp.symm.trans hpa

/-- C09 (static space): `stopped_complete` as the property states it; `hon` and `hrq` are not needed -/
theorem grid_complete (o : O) (hs : SpaceOK o.alg.space) (g : GInv o)
    (hmax : o.maxTrials = none) (hon : o.ongoing = []) (hrq : o.retryQ = [])
    (tuner c : Nat) (hout : (create alg o tuner c).2 = .stopped) :
    o.trials.map (·.vals) = enum o.alg.space [] :=
  (stopped_complete o hs g hmax tuner c hout).1

theorem ginv_reachable (o : O) (hs : SpaceOK o.alg.space) (g : GInv o) (ops : List Op) :
    GInv (run alg o ops) ∧ (run alg o ops).alg.space = o.alg.space :=
  run_invariant (P := fun o' => GInv o' ∧ o'.alg.space = o.alg.space) alg
    (fun o' op h => ⟨ginv_step o' (h.2 ▸ hs) h.1 op,
      (step_alg_const (·.space) alg populate_space (fun _ _ => rfl) o' op).trans h.2⟩) o ops ⟨g, rfl⟩

theorem ginv_init (space : List GHP) : GInv (init space) where
  vals _ _ h := by cases h
  ordered := rfl
  queue_lt _ h := by cases h
  last_pending h := absurd rfl h

theorem reachable_init (space : List GHP) (hs : SpaceOK space) (ops : List Op) :
    GInv (run alg (init space) ops) ∧ (run alg (init space) ops).alg.space = space :=
  ginv_reachable (init space) hs (ginv_init space) ops

/-- the finite grid is the budget of a grid search -/
theorem grid_trials_le (space : List GHP) (hs : SpaceOK space) (ops : List Op) :
    (run alg (init space) ops).trials.length ≤ (enum space []).length := by
  obtain ⟨g, hsp⟩ := reachable_init space hs ops
  have := g.length_le
  rwa [hsp] at this

end Grid
#print axioms Grid.grid_complete
#print axioms Grid.ginv_reachable
