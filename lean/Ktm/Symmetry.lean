import Ktm.CoreOps
import Ktm.Grid
import Ktm.Random
import Ktm.Hyperband
/-! C04, second clause — "a search that maximises an objective issues exactly the same trials and ranking as one that
    minimises its negation", as a theorem about whole searches.

    `negOf f` negates every reported value and every score of a state and maps the algorithm state by `f`; `negOp` negates
    the value a request reports. Two algorithm records are *mirror images* (`MirrorF f algMax algMin`; `Mirror` when `f` is
    the identity; the relation is directional unless `f` is an involution, as `id` and `flipDir` are) when their scoring rules mirror each other (`scoreOf` of the negated reports is the negated `scoreOf`), and
    they choose the next configuration alike on mirrored states. Then for every request list — any number of tuners, any
    interleaving, any outcomes — the two searches answer every request identically (same ids, same values, same IDLE /
    STOPPED / abort, `mirror_outputs`) and their states are mirror images of each other after every request (`mirror_run`).

    Random search and grid search never look at scores when they choose a configuration, so they are mirror images of
    themselves under any pair of mirrored scoring rules (`random_mirror`, `grid_mirror`). Hyperband reads scores, through
    its promotion winner only, and carries the direction in its state: with that flag flipped (`flipDir`) it mirrors itself
    under any pair of mirrored scoring rules (`hyperband_mirror_of`; `hyperband_mirror` is the instance for the scoring rule
    of `HB.alg`, the last report). For the Bayesian oracle, whose optimiser is not modelled, the statement is decided by the
    `symmetry` suite. -/
namespace Symmetry
open Core
variable {V A : Type}

def negR (r : Option Int) : Option Int := r.map (fun x => -x)

def negTrial (t : Trial V) : Trial V := { t with score := t.score.map (fun x => -x), reports := t.reports.map negR }

/-- `f` is the identity for score-blind algorithms; for Hyperband it flips the direction flag the state carries -/
def negOf (f : A → A) (o : Oracle V A) : Oracle V A := { o with trials := o.trials.map negTrial, alg := f o.alg }

def negOp : Op → Op
  | .update id r => .update id (negR r)
  | op => op

structure MirrorF (f : A → A) (algMax algMin : Alg V A) : Prop where
  score : ∀ l, algMin.scoreOf (l.map negR) = (algMax.scoreOf l).map (fun x => -x)
  pop : ∀ (o : Oracle V A) (c : Nat), algMin.populate (negOf f o) c = (f (algMax.populate o c).1, (algMax.populate o c).2)
  onEnd : ∀ (a : A) (i : Nat), algMin.onEnd (f a) i = f (algMax.onEnd a i)

abbrev Mirror (algMax algMin : Alg V A) : Prop := MirrorF id algMax algMin

section mirror
variable {f : A → A} {algMax algMin : Alg V A} (m : MirrorF f algMax algMin) (o : Oracle V A)

theorem negOf_length : (negOf f o).trials.length = o.trials.length :=
  List.length_map ..

theorem negOf_getElem (i : Nat) : (negOf f o).trials[i]? = (o.trials[i]?).map negTrial :=
  List.getElem?_map ..

variable {o} in
theorem negOf_getElem_some {i : Nat} {t : Trial V} (h : o.trials[i]? = some t) : (negOf f o).trials[i]? = some (negTrial t) := by
  rw [negOf_getElem, h]; rfl

variable {o} in
theorem negOf_getElem_none {i : Nat} (h : o.trials[i]? = none) : (negOf f o).trials[i]? = none := by
  rw [negOf_getElem, h]; rfl

theorem negOf_asking (t : Nat) : asking (negOf f o) t = negOf f (asking o t) := rfl

theorem negOf_reissue (t id : Nat) : reissue (negOf f o) t id = negOf f (reissue o t id) := by
  simp only [reissue, negOf, setTrial]
  rw [List.map_modify_comm (fun t => { t with status := .running }) negTrial (fun _ => rfl)]

theorem negOf_issue (t : Nat) (p : A × Pop V) :
    issue (negOf f o) t (f p.1, p.2) = (negOf f (issue o t p).1, (issue o t p).2) := by
  obtain ⟨a, pop⟩ := p
  cases pop with
  | run v => simp only [issue, negOf, negTrial, List.map_append, List.map_cons, List.map_nil, List.length_map, Option.map_none]
  | idle => rfl
  | stop => rfl

def negD (d : EndDecision) : EndDecision := { d with sc := d.sc.map (fun x => -x) }

include m in
theorem endDecision_neg (R : Nat) (t : Trial V) (oc : Outcome) :
    endDecision algMin R (negTrial t) oc = negD (endDecision algMax R t oc) := by
  have hsc : algMin.scoreOf (negTrial t).reports = (algMax.scoreOf t.reports).map (fun x => -x) := m.score t.reports
  rcases outcome_cases algMax t oc with rfl | hinv | ⟨rfl, s, hs⟩
  · rw [endDecision_failed, endDecision_failed]; rfl
  · rw [endDecision_invalid algMax R t hinv,
      endDecision_invalid algMin R (negTrial t) (hinv.imp_right fun h => ⟨h.1, by rw [hsc, h.2]; rfl⟩), apply_ite negD]
    rfl
  · rw [endDecision_completed algMax R t hs, endDecision_completed algMin R (negTrial t) (by rw [hsc, hs]; rfl)]
    rfl

include m in
theorem negOf_settle (id runs : Nat) (d : EndDecision) :
    settle algMin (negOf f o) id runs (negD d) = negOf f (settle algMax o id runs d) := by
  simp only [settle, negOf, setTrial, m.onEnd]
  rw [List.map_modify_comm ((negD d).record runs) negTrial]
  · rfl
  · intro t'
    simp only [EndDecision.record, negD, negTrial]
    rw [apply_ite (List.map negR), List.map_nil]
    rfl

theorem negOf_streak (k : Nat) :
    hasStreak k ((negOf f o).endOrder.map (statusOf (negOf f o).trials)) = hasStreak k (o.endOrder.map (statusOf o.trials)) := by
  refine congrArg _ (List.map_congr_left fun i _ => ?_)
  simp only [statusOf, negOf_getElem]
  cases o.trials[i]? <;> rfl

include m in
theorem negOf_decided (id runs : Nat) (d : EndDecision) :
    decided algMin (negOf f o) id runs (negD d) = (negOf f (decided algMax o id runs d).1, (decided algMax o id runs d).2) := by
  -- the streak test reads statuses only
  simp only [decided]
  rw [negOf_settle m o id runs d]
  generalize settle algMax o id runs d = S
  rw [negOf_streak S]
  show (if d.retry = false ∧ hasStreak o.maxConsec _ = true then _ else _) = _
  split <;> rfl

include m in
theorem mirror_step (op : Op) :
    step algMin (negOf f o) (negOp op) = (negOf f (step algMax o op).1, (step algMax o op).2) := by
  -- `negOf f` keeps every read that selects the branch of an operation (`holds`, the retry queue, whether a record exists,
  -- the budget test, whether the trial is ongoing), so the same branch equation applies on both sides; and it commutes
  -- with what the branch does (`negOf_reissue`, `negOf_issue`, `negOf_decided`)
  cases op with
  | create t c =>
    simp only [negOp, step]
    have hb : budgetReached (negOf f o) = budgetReached o := by simp only [budgetReached, negOf, List.length_map]
    cases hh : holds o t with
    | some id =>
      cases ht : o.trials[id]? with
      | some tr =>
        rw [create_held algMax o t c hh ht, create_held algMin (negOf f o) t c hh (negOf_getElem_some ht)]
        rfl
      | none => rw [create_held_bad algMax o t c hh ht, create_held_bad algMin (negOf f o) t c hh (negOf_getElem_none ht)]
    | none =>
      cases hq : o.retryQ.getLast? with
      | some id =>
        cases ht : o.trials[id]? with
        | some tr =>
          rw [create_retry algMax o t c hh hq ht, create_retry algMin (negOf f o) t c hh hq (negOf_getElem_some ht),
            negOf_asking, negOf_reissue]
          rfl
        | none =>
          rw [create_retry_bad algMax o t c hh hq ht, create_retry_bad algMin (negOf f o) t c hh hq (negOf_getElem_none ht),
            negOf_asking]
      | none =>
        have hq := List.getLast?_eq_none_iff.mp hq
        cases hbo : budgetReached o with
        | true =>
          rw [create_budget algMax o t c hh hq hbo, create_budget algMin (negOf f o) t c hh hq (hb.trans hbo)]
          rfl
        | false =>
          -- the algorithm is asked on mirrored states and answers alike (`m.pop`)
          rw [create_ask algMax o t c hh hq hbo, create_ask algMin (negOf f o) t c hh hq (hb.trans hbo), negOf_asking, m.pop]
          exact negOf_issue (asking o t) t _
  | update id r =>
    simp only [negOp, step]
    cases ht : o.trials[id]? with
    | none => rw [update_none o id r ht, update_none (negOf f o) id (negR r) (negOf_getElem_none ht)]
    | some t =>
      rw [update_some o id r ht, update_some (negOf f o) id (negR r) (negOf_getElem_some ht)]
      simp only [negOf, setTrial]
      rw [List.map_modify_comm (fun t => { t with reports := t.reports ++ [negR r] }) negTrial]
      intro t'
      simp only [negTrial, List.map_append, List.map_cons, List.map_nil]
  | endT id oc =>
    simp only [negOp, step]
    cases ht : o.trials[id]? with
    | none => rw [endT_bad algMax o id oc (.inl ht), endT_bad algMin (negOf f o) id oc (.inl (negOf_getElem_none ht))]
    | some t =>
      cases hon : isOngoing o id with
      | false => rw [endT_bad algMax o id oc (.inr hon), endT_bad algMin (negOf f o) id oc (.inr hon)]
      | true =>
        -- the decision mirrors, and so does carrying it out
        have hdec : endDecision algMin (negOf f o).maxRetries (negTrial t) oc = _ := endDecision_neg m o.maxRetries t oc
        rw [endT_decided algMax o id oc ht hon, endT_decided algMin (negOf f o) id oc (negOf_getElem_some ht) hon, hdec]
        exact negOf_decided m o id (t.runs + 1) _

end mirror

/-- whole searches mirror each other: for every request list the maximising search and the minimising search of
    the negated reports end in mirrored states -/
theorem mirror_run (f : A → A) (algMax algMin : Alg V A) (m : MirrorF f algMax algMin) (ops : List Op) : ∀ (o : Oracle V A),
    run algMin (negOf f o) (ops.map negOp) = negOf f (run algMax o ops) := by
  induction ops with
  | nil => intro o; rfl
  | cons op ops ih =>
    intro o
    have hstep := mirror_step m o op
    rcases abort_or_ne (step algMax o op).2 with hab | hab
    · rw [List.map_cons, run_cons_abort algMax o op ops hab, run_cons_abort algMin _ _ _ (by rw [hstep]; exact hab), hstep]
    · rw [List.map_cons, run_cons algMax o op ops hab, run_cons algMin _ _ _ (by rw [hstep]; exact hab), hstep]
      exact ih _

/-- the answers to a request list, up to and including an abort -/
def outputs (alg : Alg V A) : Oracle V A → List Op → List (Out V)
  | _, [] => []
  | o, op :: ops =>
    let r := step alg o op
    r.2 :: (match r.2 with | .abort => [] | _ => outputs alg r.1 ops)

/-- the two searches answer every single request identically: same trial ids, same values, same IDLE / STOPPED / abort -/
theorem mirror_outputs (f : A → A) (algMax algMin : Alg V A) (m : MirrorF f algMax algMin) (ops : List Op) : ∀ (o : Oracle V A),
    outputs algMin (negOf f o) (ops.map negOp) = outputs algMax o ops := by
  induction ops with
  | nil => intro o; rfl
  | cons op ops ih =>
    intro o
    simp only [List.map_cons, outputs, mirror_step m o op]
    cases (step algMax o op).2 with
    | abort => rfl
    | _ => simp only [ih]

/-- best reported value in the given direction (`none` = nothing but NaN): below, a `scoreOf` that differs between the directions -/
def bestOf (minimize : Bool) : List (Option Int) → Option Int
  | [] => none
  | r :: rs =>
    match r, bestOf minimize rs with
    | none, b => b
    | some x, none => some x
    | some x, some y => some (if minimize then (if x ≤ y then x else y) else (if y ≤ x then x else y))

theorem bestOf_mirror (l : List (Option Int)) : bestOf true (l.map negR) = (bestOf false l).map (fun x => -x) := by
  induction l with
  | nil => rfl
  | cons r rs ih =>
    simp only [List.map_cons, bestOf, ih]
    cases r with
    | none => rfl
    | some x =>
      cases bestOf false rs with
      | none => rfl
      | some y =>
        simp only [negR, Option.map_some, Bool.false_eq_true, if_false, if_true, Int.neg_le_neg_iff]
        split <;> rfl

section randomSearch
variable {W : Type} [DecidableEq W]

def randomAlg (minimize : Bool) (cands : Nat → List W) : Alg W (RandomAlg.St W) :=
  { RandomAlg.alg cands with scoreOf := bestOf minimize }

/-- random search never looks at a score -/
theorem random_mirror (cands : Nat → List W) : Mirror (randomAlg false cands) (randomAlg true cands) :=
  ⟨bestOf_mirror, fun _ _ => rfl, fun _ _ => rfl⟩

end randomSearch

def gridAlg (minimize : Bool) : Alg GridSucc.Env Grid.St := { Grid.alg with scoreOf := bestOf minimize }

theorem grid_valsOf_neg (o : Grid.O) (i : Nat) : Grid.valsOf (negOf id o) i = Grid.valsOf o i := by
  simp only [Grid.valsOf, negOf, List.getElem?_map]
  cases o.trials[i]? <;> rfl

theorem grid_scanQueue_neg (o : Grid.O) (s : Grid.St) (q : List Nat) : Grid.scanQueue (negOf id o) s q = Grid.scanQueue o s q := by
  induction q with
  | nil => rfl
  | cons i q ih =>
    simp only [Grid.scanQueue, grid_valsOf_neg, ih]

/-- grid search never looks at a score either -/
theorem grid_mirror : Mirror (gridAlg false) (gridAlg true) := by
  refine ⟨bestOf_mirror, fun o c => ?_, fun _ _ => rfl⟩
  show Grid.populate (negOf id o) c = Grid.populate o c
  unfold Grid.populate
  have halg : (negOf id o).alg = o.alg := rfl
  have hong : (negOf id o).ongoing = o.ongoing := rfl
  simp only [negOf_length, halg, hong, grid_scanQueue_neg]

def flipDir (s : HB.St) : HB.St := { s with cfg := { s.cfg with minimize := !s.cfg.minimize } }

def negPair (p : Nat × Int) : Nat × Int := (p.1, -p.2)

theorem hb_better_neg (m : Bool) (a b : Int) : HB.better (!m) (-a) (-b) = HB.better m a b := by
  cases m <;> simp only [HB.better, Bool.not_false, Bool.not_true, if_true, Bool.false_eq_true, if_false, Int.neg_lt_neg_iff]

theorem hb_bestOf_neg (m : Bool) (l : List (Nat × Int)) : HB.bestOf (!m) (l.map negPair) = (HB.bestOf m l).map negPair := by
  induction l with
  | nil => rfl
  | cons x xs ih =>
    simp only [HB.bestOf, List.map_cons, ih]
    cases HB.bestOf m xs with
    | none => rfl
    | some y =>
      simp only [Option.map_some, negPair, hb_better_neg]
      split <;> rfl

theorem hb_candOf_neg (f : HB.St → HB.St) (o : HB.O) (cur : List HB.Entry) (e : HB.Entry) :
    HB.candOf (negOf f o) cur e = (HB.candOf o cur e).map negPair := by
  unfold HB.candOf
  split
  · rfl
  · simp only [negOf_getElem]
    cases o.trials[e.id]? with
    | none => rfl
    | some t =>
      simp only [Option.map_some, negTrial]
      split
      · cases t.score <;> rfl
      · rfl

theorem hb_candidates_neg (f : HB.St → HB.St) (o : HB.O) (prev cur : List HB.Entry) :
    HB.candidates (negOf f o) prev cur = (HB.candidates o prev cur).map negPair := by
  rw [HB.candidates, HB.candidates, List.map_filterMap]
  exact congrArg (List.filterMap · prev) (funext (hb_candOf_neg f o cur))

theorem hb_tryPromote_neg (o : HB.O) (cfg : HB.Cfg) (b : HB.Bracket) (rs : List (List HB.Entry)) (r : Nat) :
    HB.tryPromote (negOf flipDir o) { cfg with minimize := !cfg.minimize } b r rs = HB.tryPromote o cfg b r rs := by
  induction rs generalizing r with
  | nil => rfl
  | cons prev rest ih =>
    cases rest with
    | nil => rfl
    | cons cur rest' =>
      simp only [HB.tryPromote, hb_candidates_neg, List.length_map, hb_bestOf_neg]
      split
      · cases HB.bestOf cfg.minimize (HB.candidates o prev cur) with
        | none => exact ih (r + 1)
        | some p => rfl
      · exact ih (r + 1)

theorem hb_scan_neg (o : HB.O) (cfg : HB.Cfg) (brs : List HB.Bracket) (i : Nat) :
    HB.scan (negOf flipDir o) { cfg with minimize := !cfg.minimize } i brs = HB.scan o cfg i brs := by
  induction brs generalizing i with
  | nil => rfl
  | cons b bs ih =>
    simp only [HB.scan]
    cases b.rounds with
    | nil => exact ih (i + 1)
    | cons r0 rest =>
      dsimp only
      split
      · rfl
      · rw [hb_tryPromote_neg]
        cases HB.tryPromote o cfg b 0 (r0 :: rest) with
        | none => exact ih (i + 1)
        | some p => rfl

theorem hb_randomIn_neg (o : HB.O) (c : Nat) (s' : HB.St) (bi num : Nat) :
    HB.randomIn (negOf flipDir o) c (flipDir s') bi num
      = (flipDir (HB.randomIn o c s' bi num).1, (HB.randomIn o c s' bi num).2) := by
  cases c with
  | zero => rfl
  | succ k => simp only [HB.randomIn, negOf_length]; rfl

/-- Hyperband under any pair of mirrored scoring rules: the promotion winner is the only place where scores are read
    (`hb_bestOf_neg`); on the mirrored state with the flag flipped the scan finds the same work (`hb_scan_neg`) -/
theorem hyperband_mirror_of (sMax sMin : List (Option Int) → Option Int)
    (hs : ∀ l, sMin (l.map negR) = (sMax l).map (fun x => -x)) :
    MirrorF flipDir { HB.alg with scoreOf := sMax } { HB.alg with scoreOf := sMin } := by
  refine ⟨hs, fun o c => ?_, fun _ _ => rfl⟩
  show HB.populate (negOf flipDir o) c = (flipDir (HB.populate o c).1, (HB.populate o c).2)
  unfold HB.populate
  have hcomp : ∀ (cfg : HB.Cfg) (b : HB.Bracket), HB.completeBracket { cfg with minimize := !cfg.minimize } b = HB.completeBracket cfg b :=
    fun _ _ => rfl
  have hcfg : (negOf flipDir o).alg.cfg = { o.alg.cfg with minimize := !o.alg.cfg.minimize } := rfl
  have hbr : (negOf flipDir o).alg.brackets = o.alg.brackets := rfl
  simp only [hcfg, hbr, hcomp, hb_scan_neg]
  generalize o.alg.brackets.filter (fun b => !HB.completeBracket o.alg.cfg b) = brs
  cases HB.scan o o.alg.cfg 0 brs with
  | random bi =>
    dsimp only
    cases brs[bi]? with
    | none => rfl
    | some b => exact hb_randomIn_neg o c { o.alg with brackets := brs } bi b.num
  | promote bi r pid =>
    simp only [negOf_getElem, negOf_length]
    cases brs[bi]? with
    | none => rfl
    | some b => cases o.trials[pid]? <;> rfl
  | none =>
    dsimp only
    by_cases h : o.alg.currentBracket = 0 ∧ o.alg.currentIteration + 1 = o.alg.cfg.iterations
    -- the mirrored state makes the same test: its condition unfolds to `h`'s
    · rw [if_pos h, if_pos (by exact h)]; rfl
    · rw [if_neg h, if_neg (by exact h)]
      exact hb_randomIn_neg o c { o.alg with brackets := brs ++ [HB.newBracket (HB.nextBracket o.alg).1],
                                             currentBracket := (HB.nextBracket o.alg).1,
                                             currentIteration := (HB.nextBracket o.alg).2 } _ _

/-- Hyperband is its own mirror image once the direction flag it carries is flipped; its own scoring rule, the last
    report, mirrors itself -/
theorem hyperband_mirror : MirrorF flipDir HB.alg HB.alg := by
  refine hyperband_mirror_of _ _ fun l => ?_
  rw [List.getLast?_map]
  cases l.getLast? with
  | none => rfl
  | some r => cases r <;> rfl

/-- non-vacuity: two tuners, a retry and a tie; maximising s = (3, 5, 5) and minimising −s give the same answers and
    mirrored scores -/
example :
    let ops : List Op := [.create 0 0, .create 1 0, .update 0 (some 3), .endT 0 .invalid, .create 0 0, .update 0 (some 5),
                          .endT 0 .completed, .update 1 (some 5), .endT 1 .completed, .create 1 0]
    let cands : Nat → List Nat := fun _ => [7, 8, 9]
    let oMax := run (randomAlg false cands) (init ⟨[], 5⟩ (some 3) 1 3) ops
    let oMin := run (randomAlg true cands) (init ⟨[], 5⟩ (some 3) 1 3) (ops.map negOp)
    oMax.trials.map (·.score) = [some 5, some 5, none] ∧ oMin.trials.map (·.score) = [some (-5), some (-5), none] ∧
    oMax.trials.map (·.vals) = oMin.trials.map (·.vals) ∧ oMax.endOrder = oMin.endOrder := by
  decide

end Symmetry
#print axioms Symmetry.mirror_run
#print axioms Symmetry.mirror_outputs
#print axioms Symmetry.grid_mirror
#print axioms Symmetry.hyperband_mirror
