import Ktm.CoreInv
/-! C08, the restart as seen in memory: `requeueWith` is one more move of ids between the three lists (`Placed.requeue`),
so the lifecycle invariant survives it; ended trials are untouched and every RUNNING trial is queued. -/
namespace Core
variable {V A : Type}

/-- what `reload` produces from a state whose trial files may be newer/older than memory only for the
    trials that were ongoing: all ongoing trials go to the retry queue, nothing is ongoing -/
def requeueWith (o : Oracle V A) (ts' : List (Trial V)) (a : A) : Oracle V A :=
  { o with trials := ts', retryQ := o.retryQ ++ o.ongoing.map (·.2), ongoing := [], tunerIds := [], alg := a }

theorem Placed.requeue {o : Oracle V A} (h : Placed o) (ts' : List (Trial V)) (a : A)
    (hlen : ts'.length = o.trials.length)
    (hsame : ∀ (i : Nat), i ∉ o.ongoing.map (·.2) → ts'[i]? = o.trials[i]?) :
    Placed (requeueWith o ts' a) := by
  obtain ⟨hended, hstreak⟩ := h.ended_of_same fun i hi => hsame i fun hon => (h.inv.ongoing_facts hon).2.2 hi
  refine ⟨List.nodup_nil, ?_, (fun i hi => nomatch hi), hended, hlen ▸ h.budget, hstreak, h.not_aborted⟩
  · refine .trans ?_ (hlen ▸ h.perm)
    show ([] ++ ((o.retryQ ++ o.ongoing.map Prod.snd) ++ o.endOrder)).Perm
      (o.ongoing.map Prod.snd ++ (o.retryQ ++ o.endOrder))
    rw [List.nil_append, ← List.append_assoc (o.ongoing.map Prod.snd)]
    exact List.perm_append_comm.append_right _

theorem inv_requeue (o : Oracle V A) (h : Inv o) (ts' : List (Trial V)) (a : A)
    (hlen : ts'.length = o.trials.length)
    (hsame : ∀ (i : Nat), i ∉ o.ongoing.map (·.2) → ts'[i]? = o.trials[i]?) :
    Inv (requeueWith o ts' a) :=
  (h.placed.requeue ts' a hlen hsame).inv

/-- C08 -/
theorem requeue_committed_stable (o : Oracle V A) (h : Inv o) (ts' : List (Trial V)) (a : A)
    (hsame : ∀ (i : Nat), i ∉ o.ongoing.map (·.2) → ts'[i]? = o.trials[i]?) :
    ∀ i ∈ o.endOrder, (requeueWith o ts' a).trials[i]? = o.trials[i]? ∧
      i ∉ (requeueWith o ts' a).retryQ ∧ i ∉ (requeueWith o ts' a).ongoing.map (·.2) := by
  intro i hi
  have hnon : i ∉ o.ongoing.map (·.2) := fun hon => (h.ongoing_facts hon).2.2 hi
  refine ⟨hsame i hnon, fun hq => ?_, List.not_mem_nil⟩
  exact (List.mem_append.mp hq).elim (fun hq => h.retry_not_end i hq hi) hnon

/-- C08 -/
theorem requeue_running_queued (o : Oracle V A) (h : Inv o) (ts' : List (Trial V)) (a : A)
    (hlen : ts'.length = o.trials.length)
    (hsame : ∀ (i : Nat), i ∉ o.ongoing.map (·.2) → ts'[i]? = o.trials[i]?) :
    ∀ (i : Nat) (t : Trial V), (requeueWith o ts' a).trials[i]? = some t → t.status = .running →
      i ∈ (requeueWith o ts' a).retryQ := by
  intro i t ht hs
  have hinv := inv_requeue o h ts' a hlen hsame
  rcases hinv.cover i t ht with h1 | h1 | h1
  · exact absurd h1 List.not_mem_nil
  · exact h1
  · exact absurd hs (hinv.ended_not_running h1 ht)

end Core
#print axioms Core.inv_requeue
