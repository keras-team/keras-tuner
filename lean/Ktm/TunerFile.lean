/-! C02 / C08 / C19 at tuner level — when does a restarted `BaseTuner` reload the project?

`BaseTuner.__init__` reloads (oracle and tuner) only if the tuner's own state file exists; that file is written by `save()` at the
end of every `on_trial_end`, right after `Oracle.end_trial` has written `oracle.json`. File-level model of one tuner's search:
trial `i` contributes the writes `oracle.json (i ended)` (create_trial), `oracle.json (i+1 ended)` (end_trial), and `BaseTuner.save()`:
`oracle.json (i+1 ended)` once more, then the `tuner file`.
A crash leaves a prefix of the write sequence on disk.

Proved: for every number of trials and every crash point, the restarted tuner knows every trial the disk records as ended —
except in one window: exactly one trial ended and no tuner file yet (known finding F18). A search that wrote the tuner file only at
its end forgets arbitrarily many. -/
namespace TunerFile

inductive W | oracle (ended : Nat) | tuner
  deriving DecidableEq, Repr

/-- disk: (trials recorded as ended in oracle.json, tuner file exists) -/
abbrev Disk := Nat × Bool

def apply (d : Disk) : W → Disk
  | .oracle e => (e, d.2)
  | .tuner => (d.1, true)

def disk (ws : List W) : Disk := ws.foldl apply (0, false)

def trialWrites (i : Nat) : List W := [.oracle i, .oracle (i + 1), .oracle (i + 1), .tuner]

def searchWrites : Nat → List W
  | 0 => []
  | n + 1 => searchWrites n ++ trialWrites n

/-- what the restarted tuner knows: everything on disk if it reloads, nothing otherwise -/
def restartKnows (d : Disk) : Nat := if d.2 then d.1 else 0

theorem disk_append (a b : List W) : disk (a ++ b) = b.foldl apply (disk a) :=
  List.foldl_append ..

theorem disk_full (n : Nat) : disk (searchWrites n) = (n, decide (0 < n)) := by
  induction n with
  | zero => rfl
  | succ n ih =>
    rw [searchWrites, disk_append, ih, decide_eq_true (Nat.succ_pos n)]
    rfl

theorem tuner_file_stays (ws : List W) (d : Disk) (h : d.2 = true) : (ws.foldl apply d).2 = true := by
  induction ws generalizing d with
  | nil => exact h
  | cons w ws ih =>
    cases w with
    | oracle e => exact ih _ h
    | tuner => exact ih _ rfl

/-- every prefix of the write sequence: no tuner file ⇒ at most one trial is recorded as ended -/
theorem prefix_window (n k : Nat) : (disk ((searchWrites n).take k)).2 = false → (disk ((searchWrites n).take k)).1 ≤ 1 := by
  induction n generalizing k with
  | zero =>
    intro _
    rw [searchWrites, List.take_nil]
    exact Nat.zero_le 1
  | succ n ih =>
    rw [searchWrites, List.take_append, disk_append]
    by_cases hk : k ≤ (searchWrites n).length
    · rw [Nat.sub_eq_zero_of_le hk]
      exact ih k
    · rw [List.take_of_length_le (Nat.le_of_not_le hk), disk_full]
      cases n with
      | zero =>
        -- the first trial: its four proper prefixes
        generalize k - (searchWrites 0).length = j
        match j with
        | 0 | 1 | 2 | 3 => intro _; decide
        | j + 4 =>
          intro h
          rw [trialWrites, List.take_of_length_le (Nat.le_add_left 4 j)] at h
          cases h
      | succ n =>
        -- later trials: the tuner file is there already
        intro h
        rw [tuner_file_stays _ _ rfl] at h
        cases h

theorem restart_knows_all_but_window (n k : Nat) :
    restartKnows (disk ((searchWrites n).take k)) = (disk ((searchWrites n).take k)).1 ∨
    ((disk ((searchWrites n).take k)).1 = 1 ∧ (disk ((searchWrites n).take k)).2 = false) := by
  have hw := prefix_window n k
  generalize disk ((searchWrites n).take k) = d at hw ⊢
  obtain ⟨e, b⟩ := d
  cases b with
  | true => exact .inl rfl
  | false =>
    rcases Nat.le_one_iff_eq_zero_or_eq_one.mp (hw rfl) with rfl | rfl
    · exact .inl rfl
    · exact .inr ⟨rfl, rfl⟩

/-- the window exists (known finding F18): first trial ended on disk, tuner file not yet written -/
example : disk ((searchWrites 3).take 2) = (1, false) ∧ restartKnows (disk ((searchWrites 3).take 2)) = 0 := by decide

/-- a tuner that writes its file only when the search is over: after two trials the restart knows nothing -/
def lateWrites : Nat → List W
  | 0 => []
  | n + 1 => lateWrites n ++ [.oracle n, .oracle (n + 1), .oracle (n + 1)]

theorem late_tuner_file_forgets : (disk (lateWrites 2)).1 = 2 ∧ restartKnows (disk (lateWrites 2)) = 0 := by decide

end TunerFile
