import Ktm.PersistOps
/-! C08 — a second crash, after a restart.

After `reload` the memory state `r` is *not* `DiskOK` with the disk it was loaded from: the oracle file still lists the old
ongoing map and the old retry queue (reload re-queues in memory only). What holds is: every trial file equals the record in
memory (`TF r d`), nothing is ongoing in `r`, and the disk is still `DiskOK` with the state the crash left, which has as
many trials as `r`.

A resumed process can only begin with `create_trial` requests (nobody holds a trial yet); as soon as one has handed out a
trial, memory and disk are `DiskOK` again: every later crash point is a first crash (`Props.C08.crash_disk_consistent`), and
so on for a third, fourth … crash. -/
namespace Core
variable {V A : Type}

def TF (r : Oracle V A) (d : Disk V A) : Prop :=
  ∀ (i : Nat) (t : Trial V), r.trials[i]? = some t → d.tfile i = some (tfileOf t)

theorem TF.filesOK {r : Oracle V A} {d : Disk V A} (h : TF r d) : FilesOK r d :=
  fun i t hi => ⟨tfileOf t, h i t hi, rfl, fun _ => rfl⟩

theorem tf_reload (cfg r : Oracle V A) (d : Disk V A) (hr : reload cfg d = some r) : TF r d ∧ r.ongoing = [] := by
  obtain ⟨f, ts, _, hts, rfl⟩ := reload_eq_some hr
  refine ⟨fun i t hi => ?_, rfl⟩
  obtain ⟨hlen, hget⟩ := loadTrials_eq_some hts
  obtain ⟨f', hf', hti⟩ := hget i (hlen ▸ List.lt_length_of_getElem? hi)
  rw [hf', ← Option.some.inj (hti.symm.trans hi)]
  rfl

/-- where a process stands with respect to its disk: consistent with it (always, once it has written the oracle file), or
    freshly restarted on the disk `d` that a crash in state `base` left, with no oracle-file write yet -/
def Resumed (base : Oracle V A) (d : Disk V A) (s : Oracle V A × Disk V A) : Prop :=
  DiskOK s.1 s.2 ∨ (s.2 = d ∧ TF s.1 d ∧ s.1.ongoing = [] ∧ base.trials.length = s.1.trials.length)

/-- both cases of `Resumed` are the same instance of `create_crash_points`: the disk is consistent with `b` (memory
    itself, or `base`) and its trial files are right for memory -/
theorem resumed_create (alg : Alg V A) {base : Oracle V A} {d : Disk V A} (hbinv : Inv base) (hbd : DiskOK base d)
    (s : Oracle V A × Disk V A) (hinv : Inv s.1) (hs : Resumed base d s) (tuner c : Nat) :
    (∀ k, ∃ b, Inv b ∧ DiskOK b (stepD alg k s (.create tuner c)).2) ∧ Resumed base d (stepD alg 2 s (.create tuner c)) := by
  have hinv' : Inv (create alg s.1 tuner c).1 := inv_create alg s.1 tuner c hinv
  obtain ⟨b, hb, hbd', hf, hlen⟩ :
      ∃ b, Inv b ∧ DiskOK b s.2 ∧ FilesOK s.1 s.2 ∧ b.trials.length ≤ s.1.trials.length := by
    rcases hs with h | ⟨hd, htf, _, hlen⟩
    · exact ⟨s.1, hinv, h, h.tfiles, Nat.le_refl _⟩
    · exact ⟨base, hbinv, hd ▸ hbd, hd ▸ htf.filesOK, Nat.le_of_eq hlen⟩
  have hcp := create_crash_points alg b s.1 s.2 hbd' hf hlen tuner c
  refine ⟨fun k => ?_, ?_⟩
  · rcases (hcp k).1 with h | h
    · exact ⟨b, hb, h⟩
    · exact ⟨_, hinv', h⟩
  · rcases (hcp 2).2 (Nat.le_refl 2) with h | ⟨hd', a, tids, hr⟩
    · exact Or.inl h
    · -- nothing written, nothing handed out: the process stands where it stood (`Resumed` reads neither `alg` nor `tunerIds`)
      have hs' : stepD alg 2 s (.create tuner c) = ({ s.1 with alg := a, tunerIds := tids }, s.2) := Prod.ext hr hd'
      rw [hs']
      exact hs.imp (fun h => ⟨h.ofile, h.tfiles⟩) id

/-- a run of `create_trial` requests (tuner, choice) by the restarted process -/
def creates (l : List (Nat × Nat)) : List Op := l.map (fun p => Op.create p.1 p.2)

theorem resumed_run (alg : Alg V A) {base : Oracle V A} {d : Disk V A} (hbinv : Inv base) (hbd : DiskOK base d)
    (pre : List (Nat × Nat)) : ∀ (s : Oracle V A × Disk V A), Inv s.1 → Resumed base d s →
      Inv (runD alg s (creates pre)).1 ∧ Resumed base d (runD alg s (creates pre)) := by
  induction pre with
  | nil => exact fun s hinv hs => ⟨hinv, hs⟩
  | cons p pre ih =>
    intro s hinv hs
    have hrun : runD alg s (creates (p :: pre)) = runD alg (stepD alg 2 s (.create p.1 p.2)) (creates pre) :=
      runD_cons alg s (.create p.1 p.2) (creates pre) (create_not_abort alg s.1 p.1 p.2)
    rw [hrun]
    exact ih _ (inv_create alg s.1 p.1 p.2 hinv) (resumed_create alg hbinv hbd s hinv hs p.1 p.2).2

/-- a second crash, at any point of the resumed run's first requests: the resumed process asks for trials
    (`pre`, then one more request in which it dies after `k` of its writes); at that point the disk is `DiskOK` with a
    state satisfying the lifecycle invariant; and once the requests of `pre` are done, either nothing was handed out and
    everything is as right after the restart, or memory and disk are `DiskOK` again — from where every later crash point
    is covered by the first-crash theorem -/
theorem second_crash (alg : Alg V A) (base : Oracle V A) (hbinv : Inv base) :
    ∀ (pre : List (Nat × Nat)) (r : Oracle V A) (d : Disk V A), Inv r → TF r d → r.ongoing = [] → DiskOK base d →
      base.trials.length = r.trials.length →
      (∀ (tuner c k : Nat), ∃ b, Inv b ∧ DiskOK b (stepD alg k (runD alg (r, d) (creates pre)) (.create tuner c)).2) ∧
      (DiskOK (runD alg (r, d) (creates pre)).1 (runD alg (r, d) (creates pre)).2 ∨
       ((runD alg (r, d) (creates pre)).2 = d ∧ TF (runD alg (r, d) (creates pre)).1 d ∧
        (runD alg (r, d) (creates pre)).1.ongoing = [])) := by
  intro pre r d hinv htf hon hbd hlen
  obtain ⟨hi, hs⟩ := resumed_run alg hbinv hbd pre (r, d) hinv (Or.inr ⟨rfl, htf, hon, hlen⟩)
  refine ⟨fun tuner c k => (resumed_create alg hbinv hbd _ hi hs tuner c).1 k, ?_⟩
  rcases hs with h | ⟨h1, h2, h3, _⟩
  · exact Or.inl h
  · exact Or.inr ⟨h1, h2, h3⟩

end Core
#print axioms Core.second_crash
#print axioms Core.tf_reload
