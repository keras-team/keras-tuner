import Ktm.GridSucc
/-! C05 bridge: a random sample (`_random_values`) is an element of `enum`, hence `enum_exact` applies.
`sample` is `GridSucc.sample`: this file continues that namespace. -/
namespace GridSucc

/-- `_random_values` for one pass over the space: `pickIdx k h` = index chosen for the k-th sampled entry
    (from the seeded draw); inactive entries are skipped and do not consume a seed -/
def sample (pickIdx : Nat → GHP → Nat) : List GHP → Env → Nat → Env × Nat
  | [], pre, k => (pre, k)
  | h :: hs, pre, k =>
    if active pre h then
      match h.vals[pickIdx k h % h.vals.length]? with
      | some v => sample pickIdx hs (pre ++ [(h.name, v)]) (k + 1)
      | none => sample pickIdx hs pre k          -- unreachable: value lists are non-empty
    else sample pickIdx hs pre k

theorem sample_mem_enum (pickIdx : Nat → GHP → Nat) (hs : List GHP) (hv : ∀ g ∈ hs, g.vals ≠ []) (pre : Env) (k : Nat) :
    (sample pickIdx hs pre k).1 ∈ enum hs pre := by
  induction hs generalizing pre k with
  | nil => exact mem_enum_nil.mpr rfl
  | cons h hs ih =>
    have hv' : ∀ g ∈ hs, g.vals ≠ [] := fun g hg => hv g (List.mem_cons_of_mem _ hg)
    rw [mem_enum_cons, sample]
    by_cases hact : active pre h
    · have hidx : pickIdx k h % h.vals.length < h.vals.length :=
        Nat.mod_lt _ (List.length_pos_iff.mpr (hv h List.mem_cons_self))
      rw [if_pos hact, if_pos hact, List.getElem?_eq_getElem hidx]
      exact ⟨_, List.getElem_mem hidx, ih hv' _ _⟩
    · rw [if_neg hact, if_neg hact]
      exact ih hv' _ _

theorem sample_eq_append (pickIdx : Nat → GHP → Nat) (hs : List GHP) (pre : Env) (k : Nat) :
    ∃ s, sample pickIdx hs pre k = (pre ++ s, k + s.length) := by
  induction hs generalizing pre k with
  | nil =>
    refine ⟨[], ?_⟩
    rw [List.append_nil]
    rfl
  | cons h hs ih =>
    rw [sample]
    split
    · split
      · next v _ =>
        obtain ⟨s, hs'⟩ := ih (pre ++ [(h.name, v)]) (k + 1)
        refine ⟨(h.name, v) :: s, ?_⟩
        rw [hs', List.append_assoc, List.length_cons, Nat.add_assoc, Nat.add_comm 1]
        rfl
      · exact ih pre k
    · exact ih pre k

/-- the seed counter advances exactly once per sampled (= active) entry -/
theorem sample_seed_count (pickIdx : Nat → GHP → Nat) (hs : List GHP) (hv : ∀ g ∈ hs, g.vals ≠ []) (pre : Env) (k : Nat) :
    (sample pickIdx hs pre k).2 = k + ((sample pickIdx hs pre k).1.length - pre.length) := by
  obtain ⟨s, h⟩ := sample_eq_append pickIdx hs pre k
  rw [h, List.length_append, Nat.add_sub_cancel_left]

end GridSucc
#print axioms GridSucc.sample_mem_enum
#print axioms GridSucc.sample_seed_count
