import Ktm.Results
import Ktm.Track
import Ktm.NanEpoch
/-! # C18 — metric bookkeeping and result conversion compute the documented aggregates

Model: `Metrics.update / mean / bestValue / bestStep / history` (`MetricHistory`), values are NaN or
extended rationals with numpy's `mean` / `nanmin` / `nanmax` semantics; `Results.*` for
`convert_to_metrics_dict`, `get_best_step`, `MultiObjective.get_value` (finite integer-scaled curves). -/
namespace Props.C18
open Metrics Results

/-- metrics are recorded per step; a report at an already seen step is appended to that step's
executions, every other step is untouched -/
theorem reports_recorded_per_step (h : List Obs) (s : Int) (v : FV) (s' : Int) :
    valsAt (update h s v) s' = if s' = s then valsAt h s ++ [v] else valsAt h s' :=
  update_records h s v s'

/-- a repeated step is merged, never duplicated -/
theorem steps_stay_distinct (h : List Obs) (s : Int) (v : FV) :
    (update h s v).map (·.step) = if s ∈ h.map (·.step) then h.map (·.step) else h.map (·.step) ++ [s] :=
  update_steps h s v

/-- the best value is attained by some step's mean and is at least as good, in the metric's direction,
as every non-NaN mean; it is NaN-free unless every mean is NaN -/
theorem best_value_spec (m : Bool) (l : List FV) :
    match nanBest m l with
    | some b => FV.val b ∈ l ∧ ∀ a, FV.val a ∈ l → leDir m b a = true
    | none => ∀ a, FV.val a ∉ l :=
  nanBest_spec m l

/-- the best step attains the best value -/
theorem best_step_attains (m : Bool) (h : List Obs) (s : Int) (hs : bestStep m h = some s) :
    ∃ o ∈ h, o.step = s ∧ Metrics.bestValue m h = some (mean o.vals) :=
  bestStep_attains m h s hs

/-- histories come back in step order, with exactly the recorded observations -/
theorem history_in_step_order (h : List Obs) :
    (history h).Pairwise (fun a b => a.step ≤ b.step) ∧ (history h).Perm h :=
  history_sorted_perm h

/-- a multi-objective is the sum of its minimised metrics minus the sum of its maximised ones -/
theorem multi_objective_value (l : List (Bool × Int)) : multiValue l = sumWhere true l - sumWhere false l :=
  multiValue_eq l

/-- each execution's objective is its curve's value at the first epoch attaining the best value -/
theorem execution_best_epoch_first (minimize : Bool) (curve : List Int) (h : curve ≠ []) :
    ∃ i, bestEpoch minimize curve = some i ∧ BestEpoch.FirstMin (curve.map (frame minimize)) i :=
  bestEpoch_first minimize curve h

/-- the objective of a list of executions is the mean over executions of each execution's best-epoch
objective (not the best of the means) -/
theorem list_objective_is_mean_of_bests (minimize : Bool) (curves : List (List Int)) (q : Rat)
    (h : listObjective minimize curves = some q) :
    q = (((curves.filterMap (Results.bestValue minimize)).sum : Int) : Rat) / (curves.length : Rat) ∧
    (curves.filterMap (Results.bestValue minimize)).length = curves.length := by
  simp only [listObjective, Option.ite_none_right_eq_some, Option.some.injEq] at h
  exact ⟨h.2.symm, h.1.1⟩

/-- every metric of a trial is tracked under the direction of its own name — the objective's as the user gave it (the
components of a multi-objective included), otherwise what the name says, otherwise "min" — for every sequence of reports,
whatever other metrics a report holds and in whatever order -/
theorem metric_direction_is_its_own (infer : String → Option Bool) (o : Track.Obj) (rs : List (Int × List (String × FV)))
    (n : String) (h : Track.Hist) (hm : (n, h) ∈ Track.reports infer o rs) : h.minimize = Track.dirOf infer o n :=
  Track.wf_reports infer o rs n h hm

theorem objective_direction_is_the_users (infer : String → Option Bool) (o : Track.Obj) :
    Track.dirOf infer o o.name = o.minimize ∧
    (∀ m d, o.name ≠ m → Track.partDir o.parts m = some d → Track.dirOf infer o m = d) ∧
    (∀ m, o.name ≠ m → Track.partDir o.parts m = none → Track.dirOf infer o m = (infer m).getD true) :=
  ⟨Track.dir_of_objective infer o, fun m d => Track.dir_of_component infer o m d, fun m => Track.dir_of_other infer o m⟩

/-- one `update_trial` report records, for each metric, exactly the value reported for it at that step and leaves every
other metric alone: the outcome does not depend on the order of the report's keys -/
theorem report_is_per_metric (infer : String → Option Bool) (o : Track.Obj) (step : Int) (kvs : List (String × FV))
    (hnd : (kvs.map (·.1)).Nodup) (t : Track.Tracker) (m : String) :
    (m ∉ kvs.map (·.1) → Track.lookup (Track.report infer o t step kvs) m = Track.lookup t m) ∧
    (∀ v, (m, v) ∈ kvs → Track.lookup (Track.report infer o t step kvs) m = some (Track.into infer o step m (Track.lookup t m) v)) :=
  Track.report_one_metric infer o step kvs hnd t m

/-- an execution whose objective diverges to NaN at some epoch: a NaN epoch is never the best one — when the first epoch is a number
the chosen epoch is the first that attains the best value among the numeric epochs (values framed so that smaller is better; `none` = NaN) -/
theorem nan_epoch_is_never_best (m : Int) (vs : List (Option Int)) :
    ∃ i m', NanEpoch.bestEpoch (some m :: vs) = some (i, some m') ∧ NanEpoch.FirstNumMin (some m :: vs) i m' :=
  NanEpoch.best_epoch_ignores_nan m vs

/-- … and a NaN at the very first epoch stays (nothing compares better than NaN): the execution's objective is NaN -/
theorem nan_first_epoch_stays (vs : List (Option Int)) : NanEpoch.bestEpoch (none :: vs) = some (0, none) :=
  NanEpoch.nan_first_stays vs

/-- non-vacuity: best of means vs mean of bests differ on [[3,1],[1,3]]: mean of bests is 1 -/
example : (listObjective true [[3, 1], [1, 3]]).isSome ∧ Results.bestValue true [3, 1] = some 1 ∧ Results.bestValue true [1, 3] = some 1 := by decide

end Props.C18
