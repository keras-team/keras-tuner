import Ktm.Transforms
import Ktm.Continuous
/-! # C14 — value/probability transforms stay in the domain and invert each other

Model (exact arithmetic, `Ktm/Transforms.lean`): a probability in `[0,1)` is `num/den` with
`num < den` (every double is such a ratio); decimal bounds and steps are scaled by their common
denominator `D` to integers (`min = a/D`, `max = b/D`, `step = s/D`; log steps are `s/t`). -/
namespace Props.C14
open Transforms

/-- every probability (even outside `[0,1)`) lands on a legal index -/
theorem index_in_range (num den n : Nat) (hn : 0 < n) : probToIndex num den n < n := probToIndex_lt num den n hn

/-- `index_to_prob` is a probability in `[0,1)` and `prob_to_index ∘ index_to_prob = id` -/
theorem index_prob_roundtrip (i n : Nat) (hi : i < n) :
    indexToProbNum i < indexToProbDen n ∧ probToIndex (indexToProbNum i) (indexToProbDen n) n = i :=
  ⟨indexToProb_lt_one i n hi, index_prob_index i n hi⟩

/-- the enumerated values of a stepped linear hyperparameter are exactly the lattice
`min, min+step, … ≤ max` -/
theorem linear_lattice_exact (lo hi : Int) (step : Nat) (hs : 0 < step) (hle : lo ≤ hi) (v : Int) :
    v ∈ values lo hi step ↔ lo ≤ v ∧ v ≤ hi ∧ ∃ k : Nat, v = lo + k * step :=
  mem_values lo hi step hs hle v

/-- `max` is enumerated iff it lies on the lattice -/
theorem max_on_lattice (lo hi : Int) (step : Nat) (hs : 0 < step) (hle : lo ≤ hi) :
    hi ∈ values lo hi step ↔ ∃ k : Nat, hi = lo + k * step :=
  max_included_iff lo hi step hs hle

/-- mapping any probability to a value yields a member of the domain (stepped linear kinds) -/
theorem prob_to_value_in_domain (lo hi : Int) (step : Nat) (hs : 0 < step) (hle : lo ≤ hi) (num den : Nat) :
    probToValueLin lo hi step num den ∈ values lo hi step :=
  probToValueLin_mem lo hi step num den

/-- mapping any domain value to a probability and back returns the same value (stepped linear kinds) -/
theorem value_prob_value (lo hi : Int) (step : Nat) (hs : 0 < step) (i : Nat) (hi' : i < nValues lo hi step) :
    probToValueLin lo hi step (indexToProbNum (indexOfLin lo step (valueByIndex lo step i)))
      (indexToProbDen (nValues lo hi step)) = valueByIndex lo step i :=
  value_prob_value_lin lo hi step hs i hi'

/-- log / reverse_log lattice: the enumeration scans `min·step^i ≤ max` upwards; it contains exactly an
initial segment of indices, and the first missing one already exceeds `max` (so `max` is included iff it is
`min·step^i` for some `i`) -/
theorem log_lattice_exact (a b s t fuel : Nat) (h : nLog a b s t fuel < fuel) :
    (∀ j, j < nLog a b s t fuel → a * s ^ j ≤ b * t ^ j) ∧ ¬ a * s ^ (nLog a b s t fuel) ≤ b * t ^ (nLog a b s t fuel) :=
  nLog_spec a b s t fuel h

/-- beyond the first failing index every index fails (`step ≥ 1`) -/
theorem log_lattice_initial_segment (a b s t : Nat) (ht : 0 < t) (hst : t ≤ s) (i : Nat)
    (h : ¬ a * s ^ i ≤ b * t ^ i) : ¬ a * s ^ (i + 1) ≤ b * t ^ (i + 1) := by
  intro hc
  rw [Nat.pow_succ, Nat.pow_succ, ← Nat.mul_assoc, ← Nat.mul_assoc] at hc
  -- a·sⁱ·t ≤ a·sⁱ·s ≤ b·tⁱ·t, and `t` cancels
  exact h (Nat.le_of_mul_le_mul_right (Nat.le_trans (Nat.mul_le_mul_left _ hst) hc) ht)

/-- `Choice`: any probability gives one of the choices; value → probability → value is the identity -/
theorem choice_in_domain {α} (vals : List α) (hne : vals ≠ []) (num den : Nat) :
    ∃ v, vals[probToIndex num den vals.length]? = some v :=
  ⟨_, List.getElem?_eq_getElem (probToIndex_lt num den vals.length (List.length_pos_iff.mpr hne))⟩
theorem choice_value_prob_value {α} [DecidableEq α] (vals : List α) (v : α) (hv : v ∈ vals) :
    vals[probToIndex (indexToProbNum (vals.idxOf v)) (indexToProbDen vals.length) vals.length]? = some v := by
  have hi : vals.idxOf v < vals.length := List.idxOf_lt_length_of_mem hv
  rw [index_prob_index _ _ hi, List.getElem?_eq_getElem hi, List.getElem_idxOf]

/-- `Boolean`: 3/4 ↦ True, 1/4 ↦ False -/
theorem boolean_value_prob_value (b : Bool) : boolOfProb (if b then 3 else 1) 4 = b := by cases b <;> decide

/-- non-vacuity: `Float(0, 1, step=0.2)` scaled by 10: six values, `max` included; probability just below 1
gives the last one; `Float(0.001, 10, step=10, log)`: five values -/
example : values 0 10 2 = [0, 2, 4, 6, 8, 10] ∧ probToValueLin 0 10 2 9007199254740991 9007199254740992 = 10 ∧
    nLog 1 10000 10 1 100 = 5 := by decide

/-- continuous kinds, value → probability → value and back (real arithmetic, `min < max`): the maps the code uses
for `Float` without a step are inverse to each other under linear and log sampling; under reverse_log, probability →
value → probability -/
theorem continuous_round_trips (lo hi : ℝ) (hlt : lo < hi) :
    (∀ p, Continuous.probLinear lo hi (Continuous.sampleLinear lo hi p) = p) ∧
    (∀ v, Continuous.sampleLinear lo hi (Continuous.probLinear lo hi v) = v) ∧
    (0 < lo → ∀ p, Continuous.probLog lo hi (Continuous.sampleLog lo hi p) = p) ∧
    (0 < lo → ∀ v, 0 < v → Continuous.sampleLog lo hi (Continuous.probLog lo hi v) = v) ∧
    (0 < lo → ∀ p, Continuous.probRevLog lo hi (Continuous.sampleRevLog lo hi p) = p) :=
  ⟨fun _ => Continuous.linear_prob_of_sample hlt, fun _ => Continuous.linear_sample_of_prob hlt,
   fun hlo _ => Continuous.log_prob_of_sample hlo hlt, fun hlo _ hv => Continuous.log_sample_of_prob hlo hlt hv,
   fun hlo _ => Continuous.revlog_prob_of_sample hlo hlt⟩

/-- every probability in `[0, 1]` lands in `[min, max]` for the continuous kinds -/
theorem continuous_in_domain (lo hi p : ℝ) (hle : lo ≤ hi) (h0 : 0 ≤ p) (h1 : p ≤ 1) :
    (lo ≤ Continuous.sampleLinear lo hi p ∧ Continuous.sampleLinear lo hi p ≤ hi) ∧
    (0 < lo → lo ≤ Continuous.sampleLog lo hi p ∧ Continuous.sampleLog lo hi p ≤ hi) ∧
    (0 < lo → lo ≤ Continuous.sampleRevLog lo hi p ∧ Continuous.sampleRevLog lo hi p ≤ hi) :=
  ⟨Continuous.linear_in_range hle h0 h1, fun hlo => Continuous.log_in_range hlo hle h0 h1,
   fun hlo => Continuous.revlog_in_range hlo hle h0 h1⟩

end Props.C14
