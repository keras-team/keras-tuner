import Ktm.CoreC23
import Ktm.Persist
import Ktm.TunerFile
/-! # C02 — `max_trials` is a hard budget on distinct trials

Same model as C01 (`Core.create / update / endT` over any `Alg`), plus `Core.reload` for the restart
clause. -/
namespace Props.C02
open Core
variable {V A : Type}

/-- `remaining_trials` -/
def remaining (o : Oracle V A) : Option Nat := o.maxTrials.map (· - o.trials.length)

/-- one request never pushes the number of distinct trials beyond the budget, whatever the algorithm
answers and whether or not the search aborts -/
theorem step_budget (alg : Alg V A) (o : Oracle V A) (op : Op) (m : Nat)
    (hm : o.maxTrials = some m) (hle : o.trials.length ≤ m) :
    (step alg o op).1.maxTrials = some m ∧ (step alg o op).1.trials.length ≤ m :=
  Core.step_budget alg o op hm hle

/-- hard budget: for every request list, every algorithm and every outcome pattern the number
of distinct trials never exceeds `max_trials = N` (aborted runs included) -/
theorem budget_reachable (alg : Alg V A) (o : Oracle V A) (ops : List Op) (m : Nat)
    (hm : o.maxTrials = some m) (hle : o.trials.length ≤ m) :
    (run alg o ops).maxTrials = some m ∧ (run alg o ops).trials.length ≤ m :=
  run_budget alg o ops hm hle

theorem budget_from_init (alg : Alg V A) (a0 : A) (N maxRetries maxConsec : Nat) (ops : List Op) :
    (run alg (init (V := V) a0 (some N) maxRetries maxConsec) ops).trials.length ≤ N :=
  (budget_reachable alg (init a0 (some N) maxRetries maxConsec) ops N rfl (Nat.zero_le N)).2

/-- retries do not consume budget: serving a pending retry leaves the number of trials unchanged and
re-issues the stored values -/
theorem retry_is_free (alg : Alg V A) (o : Oracle V A) (h : Inv o) (tuner c id : Nat)
    (hh : holds o tuner = none) (hq : o.retryQ.getLast? = some id) :
    ∃ t, o.trials[id]? = some t ∧ (create alg o tuner c).2 = .trial id t.vals ∧
      (create alg o tuner c).1.trials.length = o.trials.length ∧
      (create alg o tuner c).1.retryQ = o.retryQ.dropLast :=
  retry_first alg o h tuner c id hh hq

/-- once `N` trials exist and no retry is pending every further request of a tuner without a trial is
answered STOPPED and adds nothing -/
theorem stopped_when_budget_used (alg : Alg V A) (o : Oracle V A) (tuner c : Nat)
    (hh : holds o tuner = none) (hq : o.retryQ = []) (hb : budgetReached o = true) :
    (create alg o tuner c).2 = .stopped ∧ (create alg o tuner c).1.trials = o.trials :=
  stopped_when_exhausted alg o tuner c hh hq hb

/-- `remaining_trials = N − number of distinct trials`, in every reachable state -/
theorem remaining_eq (alg : Alg V A) (o : Oracle V A) (ops : List Op) (m : Nat)
    (hm : o.maxTrials = some m) (hle : o.trials.length ≤ m) :
    remaining (run alg o ops) = some (m - (run alg o ops).trials.length) := by
  simp [remaining, (budget_reachable alg o ops m hm hle).1]

/-- the budget survives a restart: reloading a consistent project directory keeps the number of
distinct trials and the limit, so `budget_reachable` applies again to the resumed run -/
theorem budget_after_reload (alg : Alg V A) (o cfg : Oracle V A) (d : Disk V A) (h : Inv o) (hd : DiskOK o d)
    (hcfg : cfg.maxTrials = o.maxTrials ∧ cfg.maxRetries = o.maxRetries ∧ cfg.maxConsec = o.maxConsec ∧ cfg.aborted = o.aborted)
    (m : Nat) (hm : o.maxTrials = some m) (ops : List Op) :
    ∃ r, reload cfg d = some r ∧ (run alg r ops).trials.length ≤ m := by
  -- the reloaded state has `o`'s limit and as many trials as `o`
  obtain ⟨ts', a, hr, hlen, _⟩ := reload_eq_requeue o cfg d hd hcfg
  exact ⟨_, hr, (budget_reachable alg (requeueWith o ts' a) ops m hm (Nat.le_trans (Nat.le_of_eq hlen) (h.budget m hm))).2⟩

/-- non-vacuity: budget 2, three tuners, a retry in between: two trials, a fourth tuner STOPPED -/
example : let alg : Alg Nat Unit := { populate := fun _ c => ((), .run c), onEnd := fun a _ => a, scoreOf := fun l => l.getLast?.join }
    let o := run alg (init () (some 2) 1 3) [.create 0 7, .create 1 8, .endT 0 .invalid, .create 2 9, .create 0 5]
    o.trials.length = 2 ∧ (match (create alg o 3 0).2 with | .stopped => true | _ => false) = true ∧ remaining o = some 0 := by decide

/-- a restart may configure another budget (extend a search, or cut it short): the reloaded oracle works with the budget configured
now — not with the one of the run that wrote the files — and, when that budget is not already exceeded by the trials on disk, no request
list takes the number of trials beyond it -/
theorem budget_after_reload_with_another_budget (alg : Alg V A) (o cfg : Oracle V A) (d : Disk V A) (h : Inv o) (hd : DiskOK o d)
    (hcfg : cfg.maxRetries = o.maxRetries ∧ cfg.maxConsec = o.maxConsec ∧ cfg.aborted = o.aborted)
    (m' : Nat) (hm : cfg.maxTrials = some m') (hge : o.trials.length ≤ m') (ops : List Op) :
    ∃ r, reload cfg d = some r ∧ r.maxTrials = some m' ∧ (run alg r ops).trials.length ≤ m' := by
  -- the same disk is consistent with the old state re-labelled with the new budget (the budget is not part of the files)
  have h' : Inv { o with maxTrials := some m' } := by
    refine { h with budget := fun m hmm => ?_ }
    obtain rfl := Option.some.inj hmm
    exact hge
  have hd' : DiskOK { o with maxTrials := some m' } d := ⟨hd.ofile, hd.tfiles⟩
  obtain ⟨r, hr, hb⟩ := budget_after_reload alg { o with maxTrials := some m' } cfg d h' hd' ⟨hm, hcfg.1, hcfg.2.1, hcfg.2.2⟩ m' rfl ops
  exact ⟨r, hr, (reload_maxTrials hr).trans hm, hb⟩

/-- restart at tuner level: `BaseTuner` reloads only when its own state file exists, and writes that file at the end of every
`on_trial_end`. For every number of trials and every crash point of the search's write sequence the restarted tuner knows every
trial the disk records as ended (so `remaining_trials = N − n` goes on holding across the restart) — except in the window
"exactly one trial ended, tuner file not yet written" (known finding F18, C08) -/
theorem tuner_restart_knows_finished_trials (n k : Nat) :
    TunerFile.restartKnows (TunerFile.disk ((TunerFile.searchWrites n).take k)) = (TunerFile.disk ((TunerFile.searchWrites n).take k)).1 ∨
    ((TunerFile.disk ((TunerFile.searchWrites n).take k)).1 = 1 ∧ (TunerFile.disk ((TunerFile.searchWrites n).take k)).2 = false) :=
  TunerFile.restart_knows_all_but_window n k

/-- non-vacuity / the other side: a tuner that wrote its file only when the search is over would forget two finished trials -/
example : (TunerFile.disk (TunerFile.lateWrites 2)).1 = 2 ∧ TunerFile.restartKnows (TunerFile.disk (TunerFile.lateWrites 2)) = 0 :=
  TunerFile.late_tuner_file_forgets

end Props.C02
