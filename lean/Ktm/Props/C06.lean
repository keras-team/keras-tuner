import Ktm.RandomSeeded
import Ktm.Random
import Ktm.Growth
import Ktm.Props.C11
/-! # C06 — sampling oracles never start the same configuration twice, and give up cleanly

Model: `RandomSeeded.randomValues` (`_random_values`: resample while the assignment is in the tried set, at
most `max_collisions + 1` passes) and the abstract `RandomAlg` (the tried list over any value type). The hash
of the active values is modelled as the assignment itself. -/
namespace Props.C06
open Core GridSucc

/-- a sampled assignment is never one of the tried ones, whatever the PRNG draws -/
theorem sampled_not_tried (draw : Nat → Option (Nat × Nat)) (s : RandomSeeded.St) (hv : ∀ g ∈ s.space, g.vals ≠ [])
    (fuel k : Nat) (v : Env) (k' : Nat) (h : RandomSeeded.randomValues draw s fuel k = (some v, k')) : v ∉ s.tried :=
  (RandomSeeded.randomValues_spec draw s hv fuel k v k' h).2.1

/-- bounded effort, no livelock: giving up (`none` ⇒ STOPPED, or IDLE for Hyperband while trials run)
happens after exactly `max_collisions + 1` passes that all produced tried assignments; the function is
structurally recursive on that fuel, so it cannot loop -/
theorem gives_up_after_bound (draw : Nat → Option (Nat × Nat)) (s : RandomSeeded.St) (k k' : Nat)
    (h : RandomSeeded.randomValues draw s (s.maxCollisions + 1) k = (none, k')) :
    ∃ ks : List Nat, ks.length = s.maxCollisions + 1 ∧ ∀ j ∈ ks, s.tried.contains (RandomSeeded.pass draw s j).1 = true :=
  RandomSeeded.randomValues_none draw s _ k k' h

/-- no configuration is started twice: a `create_trial` request leaves the values of all trials of a sampling
oracle pairwise distinct and recorded in the tried list (one request from any state with that property; the
property along request lists is not stated) -/
theorem no_duplicate_start {W : Type} [DecidableEq W] (cands : Nat → List W) (o : Oracle W (RandomAlg.St W))
    (r : RandomAlg.RInv o) (tuner c : Nat) : RandomAlg.RInv (create (RandomAlg.alg cands) o tuner c).1 :=
  RandomAlg.rinv_create cands o r tuner c

/-- the answer on exhaustion: random sampling says STOPPED (never IDLE) -/
theorem exhausted_answer_random {W : Type} [DecidableEq W] (cands : Nat → List W) :
    Props.C11.IdleOnlyWhileBusy (RandomAlg.alg cands) := Props.C11.random_idle cands

/-- Hyperband on exhaustion: IDLE only while other trials are still running, else STOPPED -/
theorem exhausted_answer_hyperband (o : HB.O) (s' : HB.St) (bi num : Nat) :
    HB.randomIn o 0 s' bi num = (s', if o.ongoing.isEmpty then .stop else .idle) := rfl

/-- growth of the space during the search (tuned new entries): `end_trial` stores the values the tuner reports and
records them again, dropping the hash recorded before. In every state reachable by any request list with arbitrary
reported values, a freshly started trial differs from the *current* values of every stored trial, unless it is one
of the dropped (stale) configurations … -/
theorem fresh_differs_after_growth {W : Type} [DecidableEq W] (cands : Nat → List W) (o0 : Oracle W (Growth.SSt W))
    (r0 : Growth.Recorded o0) (ops : List (Growth.GOp W)) (tuner c : Nat) (v : W)
    (hnew : (create (Growth.algS cands) (Growth.grun (Growth.algS cands) (Growth.recordS true) o0 ops) tuner c).2
              = .trial (Growth.grun (Growth.algS cands) (Growth.recordS true) o0 ops).trials.length v)
    (hstale : v ∉ (Growth.grun (Growth.algS cands) (Growth.recordS true) o0 ops).alg.stale) :
    ∀ (i : Nat) (t : Trial W), (Growth.grun (Growth.algS cands) (Growth.recordS true) o0 ops).trials[i]? = some t → t.vals ≠ v :=
  Growth.fresh_differs_unless_stale true cands o0 r0 ops tuner c v hnew hstale

/-- … and a stale configuration — one leaving unbound an entry of the grown space that is active under it — is never
enumerated, hence never sampled, from the grown space -/
theorem stale_never_sampled (hs : List GHP) (old : Env) (hnd : (names hs).Nodup) (hpf : ParentsFirst [] hs)
    (g : GHP) (hg : g ∈ hs) (hact : active old g = true) (hunbound : old.lookup g.name = none) : old ∉ enum hs [] :=
  Growth.stale_not_enumerated hs old hnd hpf g hg hact hunbound

/-- entries that are reported but not tuned (`tune_new_entries = False`; defect F21, repaired): no hash is ever
dropped, so the fresh trial differs from the current values of every stored trial unconditionally -/
theorem fresh_differs_not_tuned {W : Type} [DecidableEq W] (cands : Nat → List W) (o0 : Oracle W (Growth.SSt W))
    (r0 : Growth.Recorded o0) (h0 : o0.alg.stale = []) (ops : List (Growth.GOp W)) (tuner c : Nat) (v : W)
    (hnew : (create (Growth.algS cands) (Growth.grun (Growth.algS cands) (Growth.recordS false) o0 ops) tuner c).2
              = .trial (Growth.grun (Growth.algS cands) (Growth.recordS false) o0 ops).trials.length v) :
    ∀ (i : Nat) (t : Trial W), (Growth.grun (Growth.algS cands) (Growth.recordS false) o0 ops).trials[i]? = some t → t.vals ≠ v :=
  Growth.fresh_differs_not_tuned cands o0 r0 h0 ops tuner c v hnew

/-- partial — what links the two halves of the tuned case is not proved: that the configuration dropped at a
re-record really leaves an active entry of the grown space unbound (the reported values extend the started ones by the
entries the build function declared, `Space.S.register`); the `sampling` suite's grow modes check the statement itself on
the implementation (current-values monitor, started-values monitor). -/
theorem growth_partial {W : Type} [DecidableEq W] (tried cs : List W) (v : W) (h : RandomAlg.pick tried cs = some v) :
    v ∈ cs ∧ v ∉ tried := RandomAlg.pick_spec tried cs v h

example : RandomAlg.pick [1, 2] [2, 1, 3, 4] = some 3 ∧ RandomAlg.pick [1, 2] [2, 1, 2] = none := by decide

end Props.C06
