import Ktm.RandomSeeded
import Ktm.Persist
/-! # C12 — same seed, same history, same trials

In a functional model determinism is by construction; the content of the property is that the *inputs* of
the model are complete: an issued trial is a function of (configuration, seed, request/result history,
`draw(seed_i)`), where `draw` is the seeded generator `random.Random(seed).random()`. The suite checks that
completeness against the code: every draw of the implementation is logged with its seed, the model predicts
which seeds are consumed, an unseeded draw (seed `None`) has no counterpart in the model. -/
namespace Props.C12
open Core GridSucc

/-- the seed schedule: one pass over the space consumes exactly one seed per sampled (= active) entry,
starting at the current seed state and advancing by one each time -/
theorem seed_schedule (draw : Nat → Option (Nat × Nat)) (s : RandomSeeded.St) (hv : ∀ g ∈ s.space, g.vals ≠ []) (k : Nat) :
    (RandomSeeded.pass draw s k).2 = k + (RandomSeeded.pass draw s k).1.length :=
  RandomSeeded.pass_seed_count draw s k

/-- the seed state never goes backwards (so no seed is reused within a search) -/
theorem seed_monotone (draw : Nat → Option (Nat × Nat)) (s : RandomSeeded.St) (hv : ∀ g ∈ s.space, g.vals ≠ [])
    (fuel k : Nat) (v : Env) (k' : Nat) (h : RandomSeeded.randomValues draw s fuel k = (some v, k')) : k ≤ k' :=
  (RandomSeeded.randomValues_spec draw s hv fuel k v k' h).2.2

/-- issued trials are a function of the history and of the seeded draws only: two generators that agree
on the seeds give the same search, request by request — for random search -/
theorem random_search_deterministic (d1 d2 : Nat → Option (Nat × Nat)) (hd : ∀ k, d1 k = d2 k)
    (o : Oracle Env RandomSeeded.St) (ops : List Op) :
    run (RandomSeeded.alg d1) o ops = run (RandomSeeded.alg d2) o ops := by
  have : d1 = d2 := funext hd
  rw [this]

/-- the seed counter is part of the persisted oracle state (C07): a reloaded oracle continues the same
seed schedule, so the property extends across restarts -/
theorem seed_state_persisted {V A : Type} (o cfg : Oracle V A) (d : Disk V A) (hd : DiskOK o d) (hof : d.ofile = some (ofileOf o))
    (hcfg : cfg.maxTrials = o.maxTrials ∧ cfg.maxRetries = o.maxRetries ∧ cfg.maxConsec = o.maxConsec ∧ cfg.aborted = o.aborted) :
    ∃ r, reload cfg d = some r ∧ r.alg = o.alg := by
  obtain ⟨ts', a, hr, _⟩ := reload_of_diskOK o cfg d hd hcfg
  exact ⟨_, hr, reload_alg hr hof⟩

/-- two entries sampled with seeds 7 and 8; the second pass (after a collision) uses 9 and 10 -/
example :
    let s : RandomSeeded.St := ⟨[⟨0, [0, 1], []⟩, ⟨1, [0, 1, 2], []⟩], [(0, [0, 1]), (1, [0, 1, 2])], 7, [[(0, 0), (1, 0)]], 20⟩
    let draw : Nat → Option (Nat × Nat) := fun k => if k = 7 then some (1, 4) else if k = 8 then some (1, 10) else if k = 9 then some (3, 4) else some (1, 2)
    RandomSeeded.randomValues draw s 21 7 = (some [(0, 1), (1, 1)], 11) := by decide

end Props.C12
