import Ktm.GridTop
/-! # C09 — grid search visits every combination exactly once, then stops

Model: `GridSucc.enum` (all assignments of the *active* entries, in grid order: default first, then the
value list), `GridSucc.next` (`_get_next_combination`), `Grid.alg` (`populate_space` with the ordered id
list and the queue of ids whose successor is still to be tried) over the generic oracle. Names and values
are numbered by the harness. Theorems are for spaces declared up front (any nesting, any types) with
distinct names; discovery while trials run is `discovered_partial` below. -/
namespace Props.C09
open Core GridSucc Grid

/-- the odometer step of the code is the successor function of the enumeration -/
theorem next_is_successor (hs : List GHP) (pre e : Env)
    (hv : ∀ h ∈ hs, h.vals ≠ []) (hnd : (pre.map (·.1) ++ names hs).Nodup) (he : e ∈ enum hs pre) :
    next hs pre e = succIn (enum hs pre) e :=
  next_is_succ hs pre e hv hnd he

/-- no combination is enumerated twice -/
theorem enumeration_has_no_duplicates (hs : List GHP) (hv : ∀ g ∈ hs, g.vals.Nodup) (hnd : (names hs).Nodup) :
    (enum hs []).Nodup :=
  enum_nodup hs [] hv hnd

/-- every enumerated combination assigns exactly the entries active under itself, each a member of its
value list (parents-first space, distinct names) -/
theorem enumeration_is_exact (hs : List GHP) (e : Env) (hnd : (names hs).Nodup) (hpf : ParentsFirst [] hs)
    (he : e ∈ enum hs []) :
    ∀ g ∈ hs, (active e g = true → ∃ v ∈ g.vals, e.lookup g.name = some v) ∧
              (active e g = false → e.lookup g.name = none) :=
  enum_exact_nil hs e hnd hpf he

/-- the first combination is the all-defaults one -/
theorem first_is_all_defaults (hs : List GHP) (hv : ∀ h ∈ hs, h.vals ≠ []) :
    (enum hs []).head? = some (first hs []) :=
  enum_head hs hv []

/-- the grid invariant — trial `i` carries the `i`-th combination, so no combination is ever issued twice
and the issued ones form an initial segment of the enumeration — holds after every request list: every
number of workers, every finishing order, every failure / retry pattern -/
theorem issued_is_initial_segment (space : List GHP) (hs : SpaceOK space) (ops : List Op) :
    ∀ (i : Nat) (t : Trial Env), (run alg (init space) ops).trials[i]? = some t →
      (enum space [])[i]? = some t.vals := by
  obtain ⟨g, hsp⟩ := reachable_init space hs ops
  intro i t ht
  exact hsp ▸ g.vals i t ht

/-- exactly once, then STOPPED: in any reachable state, if grid search answers STOPPED while nothing is
running and no retry is pending, the trials are exactly the enumeration of all active combinations, in
order, each once -/
theorem stopped_means_complete (space : List GHP) (hs : SpaceOK space) (ops : List Op)
    (hon : (run alg (init space) ops).ongoing = []) (hrq : (run alg (init space) ops).retryQ = [])
    (tuner c : Nat) (hout : (create alg (run alg (init space) ops) tuner c).2 = .stopped) :
    (run alg (init space) ops).trials.map (·.vals) = enum space [] := by
  obtain ⟨g, hsp⟩ := reachable_init space hs ops
  have h := grid_complete _ (hsp.symm ▸ hs) g (run_limits alg (init space) ops).1 hon hrq tuner c hout
  rwa [hsp] at h

/-- partial (spaces discovered while trials run): the theorems above are for a space fixed at the start.
For entries reported at `end_trial` exactly-once coverage of the final space is checked by the suite only, for
uniformly late declarations; a trial whose every run crashed before the late declarations is not expanded in them
(known finding F24). The statement kept here is the static one restricted to the prefix of the run before the
first discovery. -/
theorem discovered_partial (space : List GHP) (hs : SpaceOK space) (ops : List Op) :
    GInv (run alg (init space) ops) :=
  (reachable_init space hs ops).1

/-- a conditional space (1 is active only when 0 = 1): six combinations, run sequentially to the end -/
example : (enum demoSpace []).length = 6 ∧ (demo 8 (init demoSpace) []).length = 7 ∧
    (demo 8 (init demoSpace) []).getLast? = some none := by decide

end Props.C09
