import Ktm.CoreC23
import Ktm.Growth
/-! # C01 — the trial lifecycle is a well-formed state machine under any interleaving

Model: `Core.create / update / endT` over an arbitrary algorithm record `Alg` (random, grid, Hyperband
and Bayesian search are instances: `populate` may answer anything, `onEnd` may do anything to the
algorithm state). An interleaving of requests from any number of tuners with any outcomes is a
`List Core.Op`. -/
namespace Props.C01
open Core
variable {V A : Type}

/-- The lifecycle invariant (`Core.Inv`): ongoing trials are RUNNING, each held by one tuner and each
tuner holding one trial; every stored trial is in exactly one of ongoing / retry queue / end order;
the end order lists only COMPLETED/FAILED trials, once each; a COMPLETED trial carries a score; the
budget is respected. It holds in every state reachable by any request list — unless the search was
aborted by the failure streak, which is the only other way a run can end. -/
theorem lifecycle_invariant (alg : Alg V A) (a0 : A) (maxTrials : Option Nat) (maxRetries maxConsec : Nat)
    (ops : List Op) :
    Inv (run alg (init a0 maxTrials maxRetries maxConsec) ops) ∨
      (run alg (init (V := V) a0 maxTrials maxRetries maxConsec) ops).aborted = true :=
  inv_reachable alg _ ops (inv_init a0 maxTrials maxRetries maxConsec)

/-- the same from any state satisfying the invariant (used after a reload, C07/C08) -/
theorem lifecycle_invariant_from (alg : Alg V A) (o : Oracle V A) (h : Inv o) (ops : List Op) :
    Inv (run alg o ops) ∨ (run alg o ops).aborted = true :=
  inv_reachable alg o ops h

/-- a tuner that asks again before finishing gets the same trial back and nothing changes -/
theorem same_tuner_same_trial (alg : Alg V A) (o : Oracle V A) (h : Inv o) (tuner c id : Nat)
    (hh : holds o tuner = some id) : ∃ v, create alg o tuner c = (o, .trial id v) :=
  let ⟨t, ht, _⟩ := h.ongoing_run _ (List.mem_of_lookup_eq_some hh)
  ⟨t.vals, create_held alg o tuner c hh ht⟩

/-- a new trial gets the next free id (ids are unique: `0, 1, 2, …` in creation order) -/
theorem fresh_id (alg : Alg V A) (o : Oracle V A) (tuner c id : Nat) (v : V)
    (hh : holds o tuner = none) (hq : o.retryQ = []) (hout : (create alg o tuner c).2 = .trial id v) :
    id = o.trials.length ∧ (create alg o tuner c).1.trials.length = o.trials.length + 1 :=
  create_fresh_id alg o tuner c id v hh hq hout

/-- every trial handed out by `create` is RUNNING afterwards and assigned to the asking tuner -/
theorem handed_out_running (alg : Alg V A) (o : Oracle V A) (h : Inv o) (tuner c id : Nat) (v : V)
    (hout : (create alg o tuner c).2 = .trial id v) :
    holds (create alg o tuner c).1 tuner = some id ∨
      (∃ t, (create alg o tuner c).1.trials[id]? = some t ∧ t.status = .running) :=
  .inl (handed_out_held_running alg o h tuner c id v hout).1

/-- a trial that ended COMPLETED or FAILED (it is in the end order) is never handed out again -/
theorem never_reissued (alg : Alg V A) (o : Oracle V A) (h : Inv o) (tuner c id : Nat) (v : V)
    (hend : id ∈ o.endOrder) : (create alg o tuner c).2 ≠ .trial id v := by
  intro hout
  -- whichever place the handed-out id comes from, it is not the end order
  rcases create_eq_trial alg o tuner c hout with ⟨hh, _⟩ | ⟨_, hq, _⟩ | ⟨_, _, _, hid, _⟩
  · exact (h.ongoing_facts (mem_ongoing_of_holds hh)).2.2 hend
  · exact h.retry_not_end id (List.mem_of_getLast? hq) hend
  · obtain ⟨t, ht, _⟩ := h.end_ok id hend
    exact Nat.lt_irrefl _ (hid ▸ List.lt_length_of_getElem? ht)

/-- an ended trial is recorded as COMPLETED, FAILED or queued for retry — never lost: after any
non-aborting `endT` of an ongoing trial the trial is in the end order or in the retry queue -/
theorem ended_is_recorded (alg : Alg V A) (o : Oracle V A) (h : Inv o) (id : Nat) (oc : Outcome)
    (hon : isOngoing o id = true) (hna : (endT alg o id oc).2 ≠ .abort) :
    id ∈ (endT alg o id oc).1.endOrder ∨ id ∈ (endT alg o id oc).1.retryQ := by
  revert hna
  apply endT_cases alg o id oc (motive := fun r => r.2 ≠ .abort → id ∈ r.1.endOrder ∨ id ∈ r.1.retryQ)
  case bad => exact fun hb => absurd hb (endT_accepts h ((isOngoing_iff o id).mp hon))
  case abort => intros; contradiction
  case settled =>
    intro t d ht hon hspare hfin hna
    cases hr : d.retry
    · exact .inl (by simp [settle, hr])
    · exact .inr (by simp [settle, hr])

/-- tuners may hand back changed hyperparameters when they end a trial (`old_trial.hyperparameters =
trial.hyperparameters`, `_record_values` again): the lifecycle invariant holds in every state reachable by request
lists that contain such `endWith id values outcome` requests with arbitrary values and any re-recording rule -/
theorem lifecycle_invariant_with_reported_values (alg : Alg V A) (record : A → V → V → A) (a0 : A)
    (maxTrials : Option Nat) (maxRetries maxConsec : Nat) (ops : List (Growth.GOp V)) :
    Inv (Growth.grun alg record (init a0 maxTrials maxRetries maxConsec) ops) ∨
      (Growth.grun alg record (init (V := V) a0 maxTrials maxRetries maxConsec) ops).aborted = true :=
  Growth.inv_greachable alg record _ ops (inv_init a0 maxTrials maxRetries maxConsec)

/-- non-vacuity: three tuners; trial 0 ends INVALID, is issued again to tuner 2 and completes -/
example : let alg : Alg Nat Unit := { populate := fun _ c => ((), .run c), onEnd := fun a _ => a, scoreOf := fun l => l.getLast?.join }
    let o := run alg (init () (some 3) 1 2)
      [.create 0 7, .create 1 8, .create 0 9, .endT 0 .invalid, .create 2 1, .update 0 (some 4), .endT 0 .completed]
    o.endOrder = [0] ∧ o.ongoing = [(1, 1)] ∧ o.aborted = false := by decide

end Props.C01
