import Ktm.Search
import Ktm.PersistOps
/-! # C19 — the search loop ends each started trial once, maps errors, and resumes

Model: `Search.search` = `BaseTuner.search` of one tuner over the generic oracle with a scripted
`run_trial` (one `Attempt` per call: returned results / ordinary exception / `FailedTrialError` / a
`FatalError` subclass / interrupt), `fuel` bounding the number of requests. Restart = `Core.reload`. -/
namespace Props.C19
open Core Search
variable {V A : Type}

/-- every started trial is ended exactly once: the trace of the loop is a sequence of
(start id, end id) pairs, followed by STOPPED, or by a start whose run raised a fatal error or was
interrupted (nothing is ended then: the error propagates), or by the end that aborts the search; the
loop keeps asking while told IDLE and stops when told STOPPED -/
theorem each_started_ended_once (alg : Alg V A) (fuel : Nat) (o : Oracle V A) (script : List Attempt) :
    ∃ p t, (search alg fuel o script []).2 = p ++ t ∧ Pairs p ∧ Terminal t :=
  search_trace alg fuel o script [] Pairs.nil

/-- error mapping: returned results ⇒ COMPLETED, ordinary exception ⇒ INVALID, `FailedTrialError` ⇒
FAILED, in the order of the attempts; fatal errors and interrupts report nothing -/
theorem status_mapping (alg : Alg V A) (fuel : Nat) (o : Oracle V A) (script : List Attempt) :
    ∃ k, endsOf (search alg fuel o script []).2 = (script.take k).filterMap outcomeOf ∧
      ∀ a ∈ script.take k, (outcomeOf a).isSome :=
  Search.status_mapping alg fuel o script []

/-- resume: a search interrupted while one trial was in hand, restarted on the same directory (at
any point at which the files are consistent — every crash point, by C08), re-runs that trial first with
the same id and values, and the number of distinct trials — hence the remaining budget — is unchanged -/
theorem resume_same_trial (alg : Alg V A) (o cfg : Oracle V A) (d : Disk V A) (h : Inv o) (hd : DiskOK o d)
    (hcfg : cfg.maxTrials = o.maxTrials ∧ cfg.maxRetries = o.maxRetries ∧ cfg.maxConsec = o.maxConsec ∧ cfg.aborted = o.aborted)
    (tuner id : Nat) (t : Trial V) (hon : o.ongoing = [(tuner, id)]) (ht : o.trials[id]? = some t) (tuner' c : Nat) :
    ∃ r, reload cfg d = some r ∧ (create alg r tuner' c).2 = .trial id t.vals ∧ r.trials.length = o.trials.length :=
  resume_reissues_interrupted alg o cfg d hd hcfg tuner id t hon ht tuner' c

/-- overwrite on starts from nothing: a freshly constructed oracle has no trials and satisfies the invariant -/
theorem overwrite_fresh (a : A) (m : Option Nat) (r k : Nat) :
    (init (V := V) a m r k).trials = [] ∧ (init (V := V) a m r k).endOrder = [] ∧ Inv (init (V := V) a m r k) :=
  ⟨rfl, rfl, inv_init a m r k⟩

/-- non-vacuity: returned, raised (retried), FailedTrialError, then a fatal error -/
def demo : Bool :=
  let alg : Alg Nat Unit := { populate := fun _ c => ((), .run c), onEnd := fun a _ => a, scoreOf := fun l => l.getLast?.join }
  let r := search alg 20 (init () (some 5) 1 3) [.ret (some 1), .raise, .ret (some 2), .failedTrial, .fatal] []
  endsOf r.2 == [.completed, .invalid, .completed, .failed] && r.2.getLast? == some .fatalEv
example : demo = true := by decide

end Props.C19
