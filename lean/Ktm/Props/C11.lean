import Ktm.HyperbandSched
import Ktm.Random
import Ktm.Search
import Ktm.HyperbandLive
/-! # C11 — no livelock, no early stop: IDLE only while work is in flight; STOPPED is justified

Model: `Core.create` over an algorithm record; the three algorithms that can answer IDLE or STOPPED on
their own are `HB.alg` (Hyperband), `Grid.alg` (grid search) and `RandomAlg.alg` (random search / the
Bayesian warm-up). From `runs_bounded` on: whole searches — request lists, the worker systems of `Ktm/Live.lean`,
Hyperband's finite schedule. -/
namespace Props.C11
open Core
variable {V A : Type}

/-- the contract every search algorithm of the library satisfies: it says "wait" only while some
trial is running -/
def IdleOnlyWhileBusy (alg : Alg V A) : Prop :=
  ∀ (o : Oracle V A) (c : Nat) (a : A), alg.populate o c = (a, .idle) → o.ongoing ≠ []

/-- IDLE only while work is in flight, for every oracle whose algorithm meets the contract, in
every state, for every requesting tuner -/
theorem idle_implies_ongoing (alg : Alg V A) (hc : IdleOnlyWhileBusy alg) (o : Oracle V A) (tuner c : Nat)
    (hout : (create alg o tuner c).2 = .idle) : o.ongoing ≠ [] := by
  obtain ⟨a, hp⟩ := create_eq_idle alg o tuner c hout
  exact hc (asking o tuner) c a hp

/-- a single tuner is never told to wait for itself: with nothing running the answer is not IDLE
(so `BaseTuner.search` cannot spin) -/
theorem single_tuner_never_idle (alg : Alg V A) (hc : IdleOnlyWhileBusy alg) (o : Oracle V A) (tuner c : Nat)
    (hnone : o.ongoing = []) : (create alg o tuner c).2 ≠ .idle :=
  fun h => idle_implies_ongoing alg hc o tuner c h hnone

/-- Hyperband meets the contract, in every state: the bracket invariant `h` and `hpos` are not needed for it -/
theorem hyperband_idle (cfg : HB.Cfg) (o : HB.O) (h : HB.HInv cfg o) (hpos : ∀ b, 0 < cfg.size b 0) (tuner c : Nat)
    (hout : (create HB.alg o tuner c).2 = .idle) : o.ongoing ≠ [] :=
  idle_implies_ongoing HB.alg (fun o c _ hp => HB.populate_idle o c (congrArg Prod.snd hp)) o tuner c hout

/-- grid search meets the contract -/
theorem grid_idle : IdleOnlyWhileBusy Grid.alg := by
  intro o c a hp
  rcases Grid.populate_cases o c with ⟨_, h⟩ | ⟨_, q, i, new, _, h⟩ | ⟨_, q, _, ⟨_, h⟩ | ⟨hne, _⟩⟩
  · cases h.symm.trans hp
  · cases h.symm.trans hp
  · cases h.symm.trans hp
  · exact hne

/-- random sampling never says IDLE at all -/
theorem random_idle {W : Type} [DecidableEq W] (cands : Nat → List W) : IdleOnlyWhileBusy (RandomAlg.alg cands) := by
  intro o c a hp
  rcases RandomAlg.populateWith_cases cands o c with ⟨v, _, h⟩ | h
  · cases h.symm.trans hp
  · cases h.symm.trans hp

/-- STOPPED is justified: a tuner without a trial is told STOPPED only when no retry is pending and
either the trial budget is used up or the algorithm itself has nothing left to propose -/
theorem stopped_justified (alg : Alg V A) (o : Oracle V A) (tuner c : Nat)
    (hout : (create alg o tuner c).2 = .stopped) :
    holds o tuner = none ∧ o.retryQ = [] ∧
      (budgetReached o = true ∨ ∃ a, alg.populate { o with tunerIds := addTuner o.tunerIds tuner } c = (a, .stop)) :=
  create_eq_stopped alg o tuner c hout

/-- grid search says STOPPED only when nothing is running and its queue of trials whose successor is
still to be tried is used up -/
theorem grid_stop_justified (o : Grid.O) (c : Nat) (a : Grid.St) (hp : Grid.alg.populate o c = (a, .stop)) :
    o.ongoing = [] ∧ o.trials.length ≠ 0 ∧ (Grid.scanQueue o o.alg o.alg.queue).2 = none := by
  rcases Grid.populate_cases o c with ⟨_, h⟩ | ⟨_, q, i, new, _, h⟩ | ⟨hn, q, hsc, ⟨hon, _⟩ | ⟨_, h⟩⟩
  · cases h.symm.trans hp
  · cases h.symm.trans hp
  · exact ⟨hon, hn, by rw [hsc]⟩
  · cases h.symm.trans hp

/-- random search / warm-up says STOPPED only after `max_collisions + 1` candidates were all found in
the tried set — a bounded effort, never a loop -/
theorem random_stop_justified {W : Type} [DecidableEq W] (cands : Nat → List W) (o : Oracle W (RandomAlg.St W)) (c : Nat)
    (a : RandomAlg.St W) (hp : (RandomAlg.alg cands).populate o c = (a, .stop)) :
    RandomAlg.pick o.alg.tried ((cands c).take (o.alg.maxCollisions + 1)) = none ∧
    ((cands c).take (o.alg.maxCollisions + 1)).length ≤ o.alg.maxCollisions + 1 := by
  simp only [RandomAlg.alg, RandomAlg.populateWith] at hp
  split at hp
  · cases hp
  · next hnone => exact ⟨hnone, List.length_take_le _ _⟩

/-- bounded number of trial runs: for every algorithm, every request list from any number of tuners and
every outcome pattern (all trials failing included), the number of RUNNING answers handed to tuners that held
nothing is at most (number of distinct trials) × (max_retries_per_trial + 1) … -/
theorem runs_bounded (alg : Alg V A) (a0 : A) (maxTrials : Option Nat) (maxRetries maxConsec : Nat) (ops : List Op) :
    issuedBy alg (init (V := V) a0 maxTrials maxRetries maxConsec) ops ≤
      (run alg (init (V := V) a0 maxTrials maxRetries maxConsec) ops).trials.length * (maxRetries + 1) :=
  Core.issuedBy_le alg _ (inv_init a0 maxTrials maxRetries maxConsec) (kinv_init a0 maxTrials maxRetries maxConsec) ops
    (Nat.le_refl _)

/-- … hence at most `N · (max_retries + 1)` runs under a trial budget `N` (C02 bounds the number of trials) -/
theorem runs_bounded_budget (alg : Alg V A) (a0 : A) (N maxRetries maxConsec : Nat) (ops : List Op) :
    issuedBy alg (init (V := V) a0 (some N) maxRetries maxConsec) ops ≤ N * (maxRetries + 1) :=
  Core.issuedBy_le alg _ (inv_init a0 (some N) maxRetries maxConsec) (kinv_init a0 (some N) maxRetries maxConsec) ops
    (run_budget alg _ ops rfl (Nat.zero_le N)).2

/-- … and at most `(number of active combinations) · (max_retries + 1)` runs for grid search without a trial
limit: the finite grid is the budget -/
theorem grid_runs_bounded (space : List GridSucc.GHP) (hs : Grid.SpaceOK space) (ops : List Op) :
    issuedBy Grid.alg (Grid.init space) ops ≤ (GridSucc.enum space []).length * ((Grid.init space).maxRetries + 1) :=
  Core.issuedBy_le Grid.alg _ (inv_init _ none 0 1000) (kinv_init _ none 0 1000) ops (Grid.grid_trials_le space hs ops)

/-- liveness, part 1 — only IDLE answers can repeat. Workers that always finish what they are given: a worker
holding a trial ends it, a worker holding nothing asks, a worker told STOPPED does nothing more. Along every
interleaving of any number of such workers (any scheduler, fair or not), with any outcomes and any algorithm, at most
`2 · N · (max_retries + 1)` steps hand out or end a trial under a budget of `N` trials … -/
theorem productive_steps_bounded (alg : Alg V A) (a0 : A) (N maxRetries maxConsec : Nat) (as : List Live.Act) :
    Live.productiveCount alg ⟨init (V := V) a0 (some N) maxRetries maxConsec, [], false⟩ as ≤ 2 * (N * (maxRetries + 1)) :=
  Live.productive_bounded alg a0 N maxRetries maxConsec as

/-- … the same for grid search without a trial limit, the finite grid being the budget: at most
`2 · |grid| · (max_retries + 1)` productive steps along every interleaving … -/
theorem grid_productive_steps_bounded (space : List GridSucc.GHP) (hs : Grid.SpaceOK space) (as : List Live.Act) :
    Live.productiveCount Grid.alg ⟨Grid.init space, [], false⟩ as ≤
      2 * ((GridSucc.enum space []).length * ((Grid.init space).maxRetries + 1)) :=
  Live.grid_productive_bounded space hs as

/-- … STOPPED is answered to each worker at most once … -/
theorem stopped_once (alg : Alg V A) (s : Live.Sys V A) (a : Live.Act) (hn : s.stopped.Nodup) :
    (Live.sstep alg s a).stopped.Nodup := Live.stopped_nodup_step alg s a hn

/-- liveness, part 2 — waiting is never for nothing. In every system state (oracle invariant, workers told
STOPPED hold nothing — both preserved by every step), a worker that is answered IDLE waits for another worker that
has not been told STOPPED and holds a trial, and that worker's next step, whatever its outcome, ends the trial.
So as long as some worker has not been told STOPPED, some such worker's next step is not IDLE. Read with part 1 (the
combination is not stated as a theorem, and `bad` answers are not counted): at most `2·N·(R+1)` steps are productive and at most
`W` are answered STOPPED, one per worker, so a schedule that keeps letting every worker move ends with all `W` workers told
STOPPED or with the failure-streak abort. -/
theorem waiting_is_for_a_running_trial (alg : Alg V A) (hc : IdleOnlyWhileBusy alg) (s : Live.Sys V A) (h : Inv s.o)
    (hs : Live.SInv s) (a : Live.Act) :
    (step alg s.o (Live.wop s.o a)).2 ≠ .idle ∨
    ∃ w', w' ≠ a.w ∧ w' ∉ s.stopped ∧ (holds s.o w').isSome ∧
      ∀ (oc : Outcome) (c : Nat), (step alg s.o (Live.wop s.o ⟨w', oc, c⟩)).2 = .ok ∨
                                  (step alg s.o (Live.wop s.o ⟨w', oc, c⟩)).2 = .abort :=
  Live.no_livelock alg hc s h hs a

/-- the side invariant of part 2 is kept by every step of every worker -/
theorem stopped_workers_hold_nothing (alg : Alg V A) (s : Live.Sys V A) (a : Live.Act) (hs : Live.SInv s) :
    Live.SInv (Live.sstep alg s a) := Live.sinv_step alg s a hs

/-- the search loop of one tuner over any such oracle ends each trial it starts and terminates with
STOPPED, a fatal error, an interrupt or the abort — within its fuel (C19's `search_trace`) -/
theorem search_loop_shape (alg : Alg V A) (fuel : Nat) (o : Oracle V A) (script : List Search.Attempt) :
    ∃ pre post, (Search.search alg fuel o script []).2 = pre ++ post ∧ Search.Pairs pre ∧ Search.Terminal post :=
  Search.search_trace alg fuel o script [] .nil

/-- Hyperband (max_epochs 1, factor 2: one bracket with a single place): the place is taken and nothing has
finished, so the other workers are told IDLE while the first still runs; once nothing runs the answer is not IDLE -/
def demo : Bool :=
  let cfg := HB.mkCfg 1 2 1 true
  let o := run HB.alg (HB.init cfg) [.create 0 1, .create 1 2]
  let o2 := run HB.alg (HB.init cfg) [.create 0 1, .update 0 (some 1), .endT 0 .completed]
  (match (create HB.alg o 2 3).2 with | .idle => true | _ => false) &&
  (match (create HB.alg o2 2 3).2 with | .idle => false | _ => true)
example : demo = true := by decide

/-- Hyperband's schedule is finite: along every request list (any number of workers, any outcomes) the sweep counter stays below
`hyperband_iterations` and the sweep position `iteration · numBrackets + (numBrackets − 1 − bracket)` stays below
`iterations · numBrackets` — at most that many brackets are ever opened; with `round_size_bound` (C10: no round exceeds its size)
this bounds the number of distinct trials of a Hyperband search by `iterations · Σ_b Σ_r size(b, r)` -/
theorem hyperband_sweeps_bounded (cfg : HB.Cfg) (hnb : 0 < cfg.numBrackets) (hit : 0 < cfg.iterations) (ops : List Core.Op) :
    HB.pos (Core.run HB.alg (HB.init cfg) ops).alg < cfg.iterations * cfg.numBrackets ∧
    (Core.run HB.alg (HB.init cfg) ops).alg.currentIteration < cfg.iterations :=
  HB.brackets_opened_bounded cfg hnb hit ops

/-- the position moves forward by at most one bracket per request and never backwards (a new bracket is opened only when the stop
test `bracket = 0 ∧ iteration + 1 = iterations` is false) -/
theorem hyperband_position_moves_forward (cfg : HB.Cfg) (o : HB.O) (h : HB.SweepInv cfg o.alg) (op : Core.Op) :
    HB.SweepInv cfg (Core.step HB.alg o op).1.alg ∧
    (HB.pos (Core.step HB.alg o op).1.alg = HB.pos o.alg ∨ HB.pos (Core.step HB.alg o op).1.alg = HB.pos o.alg + 1) :=
  HB.sweep_step cfg o h op

/-- Hyperband never ends early on behalf of an open bracket: if some open bracket has a due promotion (round `j` full, all of its
trials COMPLETED with a score, round `j + 1` with room), the scan of the brackets finds work — a first round to fill or a promotion —
so `populate_space` neither opens a new bracket nor answers IDLE / STOPPED for lack of work -/
theorem hyperband_due_promotion_is_found (o : HB.O) (cfg : HB.Cfg) (bs : List HB.Bracket) (i : Nat)
    (h : ∃ b ∈ bs, HB.Due o cfg b) : HB.scan o cfg i bs ≠ .none :=
  HB.scan_finds_due o cfg bs i h

/-- the single-round form: the winner exists whenever the round before is full and ready and the next has room -/
theorem hyperband_round_promotes (o : HB.O) (cfg : HB.Cfg) (b : HB.Bracket) (r : Nat) (prev cur : List HB.Entry)
    (rest : List (List HB.Entry)) (hready : HB.AllReady o prev) (hfull : prev.length = cfg.size b.num r)
    (hroom : (HB.pasts cur).length < cfg.size b.num (r + 1)) (hmono : cfg.size b.num (r + 1) ≤ cfg.size b.num r)
    (hprev : (prev.map (·.id)).Nodup) (hp : (HB.pasts cur).Nodup) (hsub : ∀ i ∈ HB.pasts cur, i ∈ prev.map (·.id)) :
    ∃ pid, HB.tryPromote o cfg b r (prev :: cur :: rest) = some (r + 1, pid) :=
  HB.due_promotion_found o cfg b r prev cur rest hready hfull hroom hmono hprev hp hsub

/-- Hyperband's schedule is its budget: every state any request list can reach (any number of workers, any outcomes, retries)
holds at most `iterations · numBrackets · M` trials, `M` bounding the places `Σ_r size(b, r)` of one bracket (a potential argument:
every trial handed out uses up a free place of an open bracket or one of the brackets still to be opened) -/
theorem hyperband_trials_bounded (cfg : HB.Cfg) (M : Nat) (hnb : 0 < cfg.numBrackets) (hit : 0 < cfg.iterations)
    (hpos : ∀ b, 0 < cfg.size b 0) (hM : ∀ num, num < cfg.numBrackets → HB.cap cfg (HB.newBracket num) ≤ M) (ops : List Core.Op) :
    (Core.run HB.alg (HB.init cfg) ops).trials.length ≤ cfg.iterations * cfg.numBrackets * M :=
  HB.trials_bounded cfg M hnb hit hpos hM ops

/-- … hence a Hyperband search with finite iterations finishes: along every interleaving of workers that end what they are given,
at most `2 · iterations · numBrackets · M · (max_retries + 1)` steps hand out or end a trial — all other steps are IDLE / STOPPED
answers, and `waiting_is_for_a_running_trial` says an IDLE answer always points at a trial some worker will end -/
theorem hyperband_search_finishes (cfg : HB.Cfg) (M : Nat) (hnb : 0 < cfg.numBrackets) (hit : 0 < cfg.iterations)
    (hpos : ∀ b, 0 < cfg.size b 0) (hM : ∀ num, num < cfg.numBrackets → HB.cap cfg (HB.newBracket num) ≤ M) (as : List Live.Act) :
    Live.productiveCount HB.alg ⟨HB.init cfg, [], false⟩ as ≤
      2 * (cfg.iterations * cfg.numBrackets * M * ((HB.init cfg).maxRetries + 1)) :=
  Live.hyperband_productive_bounded cfg M hnb hit hpos hM as

/-- the schedule of max_epochs 4, factor 2 (sizes [[3], [3, 2], [4, 2, 1]]) meets the hypotheses with `M = 7` -/
example : 0 < HB.cfg42.numBrackets ∧ 0 < HB.cfg42.iterations ∧ (∀ b, b < 3 → 0 < HB.cfg42.size b 0) ∧
    HB.cap HB.cfg42 (HB.newBracket 0) ≤ 7 ∧ HB.cap HB.cfg42 (HB.newBracket 1) ≤ 7 ∧ HB.cap HB.cfg42 (HB.newBracket 2) ≤ 7 := by decide

end Props.C11
