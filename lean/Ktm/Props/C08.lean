import Ktm.PersistSecond
/-! # C08 — a crash between any two writes leaves a resumable, consistent project

Model: every operation performs the atomic whole-file writes `Core.writesOf` lists, in that order
(`create_trial`: trial file, oracle file; `update_trial`: trial file; `end_trial`: trial file, oracle
file). `Core.stepD alg k` lets only the first `k` writes of the interrupted operation reach the disk.
A fresh process calls `Core.reload`. "Durably recorded" = listed in the end order of the oracle file
on disk (the commit point of the two-file protocol). -/
namespace Props.C08
open Core
variable {V A : Type}

/-- the disk after a crash: `ops` ran completely, then the process died inside `op` after `k` of its
writes (k = 0: just before its first write; k ≥ number of writes: just after its last one) -/
def crashDisk (alg : Alg V A) (s : Oracle V A × Disk V A) (ops : List Op) (op : Op) (k : Nat) : Disk V A :=
  (stepD alg k (runD alg s ops) op).2

/-- every crash point is consistent: for every scenario and every `k` the disk is `DiskOK` with
respect to a state satisfying the lifecycle invariant — the state just before the interrupted
operation or the state just after it -/
theorem crash_disk_consistent (alg : Alg V A) (s : Oracle V A × Disk V A) (h : Inv s.1) (hd : DiskOK s.1 s.2)
    (ops : List Op) (op : Op) (k : Nat) (hna : (runD alg s ops).1.aborted = false) :
    ∃ base, (base = (runD alg s ops).1 ∨ base = (step alg (runD alg s ops).1 op).1) ∧
      Inv base ∧ DiskOK base (crashDisk alg s ops op k) := by
  rcases runD_ok alg s ops h hd with ⟨hi, hdk⟩ | hab
  · have hcp := (step_crash_points alg _ _ hdk op k).1
    rcases hcp with h1 | ⟨hne, h1⟩
    · exact ⟨_, Or.inl rfl, hi, h1⟩
    · exact ⟨_, Or.inr rfl, inv_step alg _ op hi hne, h1⟩
  · exact nomatch hab.symm.trans hna

/-- restart after a crash at any point: reloading succeeds; the reloaded oracle satisfies the
lifecycle invariant (ids unique, nothing duplicated); no trial whose end is durably recorded changes
status or score, and none of them is queued again; every trial left RUNNING is in the retry queue, so
it is run again; the number of distinct trials is that of the recovered state -/
theorem restart_after_crash (alg : Alg V A) (s : Oracle V A × Disk V A) (h : Inv s.1) (hd : DiskOK s.1 s.2)
    (ops : List Op) (op : Op) (k : Nat) (hna : (runD alg s ops).1.aborted = false) (cfg : Oracle V A)
    (hcfg : cfg.maxTrials = s.1.maxTrials ∧ cfg.maxRetries = s.1.maxRetries ∧ cfg.maxConsec = s.1.maxConsec ∧ cfg.aborted = false) :
    ∃ base r, (base = (runD alg s ops).1 ∨ base = (step alg (runD alg s ops).1 op).1) ∧
      reload cfg (crashDisk alg s ops op k) = some r ∧ Inv r ∧
      (∀ i ∈ base.endOrder, r.trials[i]? = base.trials[i]? ∧ i ∉ r.retryQ ∧ i ∉ r.ongoing.map (·.2)) ∧
      (∀ (i : Nat) (t : Trial V), r.trials[i]? = some t → t.status = .running → i ∈ r.retryQ) ∧
      r.trials.length = base.trials.length ∧ r.maxTrials = s.1.maxTrials := by
  obtain ⟨base, hb, hinv, hdk⟩ := crash_disk_consistent alg s h hd ops op k hna
  -- `base` is `s.1` after `ops`, or one request later: its limits are those of `s.1`
  have hbase : base.maxTrials = s.1.maxTrials ∧ base.maxRetries = s.1.maxRetries ∧ base.maxConsec = s.1.maxConsec := by
    have hrun := run_limits alg s.1 ops
    rw [← runD_fst] at hrun
    rcases hb with rfl | rfl
    · exact hrun
    · obtain ⟨h1, h2, h3⟩ := step_limits alg (runD alg s ops).1 op
      exact ⟨h1.trans hrun.1, h2.trans hrun.2.1, h3.trans hrun.2.2⟩
  have hc : cfg.maxTrials = base.maxTrials ∧ cfg.maxRetries = base.maxRetries ∧ cfg.maxConsec = base.maxConsec ∧
      cfg.aborted = base.aborted :=
    ⟨hcfg.1.trans hbase.1.symm, hcfg.2.1.trans hbase.2.1.symm, hcfg.2.2.1.trans hbase.2.2.symm,
      hcfg.2.2.2.trans hinv.not_aborted.symm⟩
  obtain ⟨ts', a, hr, hlen, hsame⟩ := reload_eq_requeue base cfg _ hdk hc
  exact ⟨base, _, hb, hr, inv_requeue base hinv ts' a hlen hsame, requeue_committed_stable base hinv ts' a hsame,
    requeue_running_queued base hinv ts' a hlen hsame, hlen, hbase.1⟩

/-- the budget is still honoured in full and nothing is lost after the restart: the resumed run
never exceeds `max_trials`, however it is scheduled, and keeps the lifecycle invariant -/
theorem resumed_run_ok (alg : Alg V A) (r : Oracle V A) (hr : Inv r) (m : Nat) (hm : r.maxTrials = some m) (ops : List Op) :
    (run alg r ops).trials.length ≤ m ∧ (Inv (run alg r ops) ∨ (run alg r ops).aborted = true) :=
  ⟨(run_budget alg r ops hm (hr.budget m hm)).2, inv_reachable alg r ops hr⟩

/-- a second crash (and by repetition a third, a fourth …): take any disk that is consistent with a state
satisfying the invariant — by `crash_disk_consistent` every crash point of a run leaves such a disk — and restart on it.
The restarted process can only begin by asking for trials. At every crash point of every one of those requests (after
`k` of its writes) the disk is again consistent with a state satisfying the invariant: the old base as long as the
oracle file has not been rewritten (between the restart and the first oracle-file write the oracle file still lists the
old ongoing map and retry queue; only the trial file of a brand-new trial can have been added), the new state from that
write on … -/
theorem second_crash_consistent (alg : Alg V A) (base : Oracle V A) (d : Disk V A) (hb : Inv base) (hd : DiskOK base d)
    (cfg r : Oracle V A)
    (hcfg : cfg.maxTrials = base.maxTrials ∧ cfg.maxRetries = base.maxRetries ∧ cfg.maxConsec = base.maxConsec ∧ cfg.aborted = base.aborted)
    (hr : reload cfg d = some r) (pre : List (Nat × Nat)) (tuner c k : Nat) :
    ∃ b, Inv b ∧ DiskOK b (stepD alg k (runD alg (r, d) (creates pre)) (.create tuner c)).2 := by
  obtain ⟨r', hr', hinv, _, _, hlen⟩ := reload_good base cfg d hb hd hcfg
  rw [hr] at hr'; cases hr'
  obtain ⟨htf, hong⟩ := tf_reload cfg r d hr
  exact (second_crash alg base hb pre r d hinv htf hong hd hlen.symm).1 tuner c k

/-- … and once those first requests are done, either no trial was handed out and disk and memory are exactly as right
after the restart, or memory and disk are consistent again (`DiskOK`), so that every later crash point of the resumed
run is a first-crash point again (`crash_disk_consistent`, `restart_after_crash`) -/
theorem resumed_run_consistent_again (alg : Alg V A) (base : Oracle V A) (d : Disk V A) (hb : Inv base) (hd : DiskOK base d)
    (cfg r : Oracle V A)
    (hcfg : cfg.maxTrials = base.maxTrials ∧ cfg.maxRetries = base.maxRetries ∧ cfg.maxConsec = base.maxConsec ∧ cfg.aborted = base.aborted)
    (hr : reload cfg d = some r) (pre : List (Nat × Nat)) :
    DiskOK (runD alg (r, d) (creates pre)).1 (runD alg (r, d) (creates pre)).2 ∨
    ((runD alg (r, d) (creates pre)).2 = d ∧ TF (runD alg (r, d) (creates pre)).1 d ∧ (runD alg (r, d) (creates pre)).1.ongoing = []) := by
  obtain ⟨r', hr', hinv, _, _, hlen⟩ := reload_good base cfg d hb hd hcfg
  rw [hr] at hr'; cases hr'
  obtain ⟨htf, hong⟩ := tf_reload cfg r d hr
  exact (second_crash alg base hb pre r d hinv htf hong hd hlen.symm).2

/-- non-vacuity: crash between the two writes of `end_trial` (k = 1): the trial file says COMPLETED, the
oracle file still lists the trial as running ⇒ after restart it is queued and run again, once -/
def demo : Bool :=
  let alg : Alg Nat Unit := { populate := fun _ c => ((), .run c), onEnd := fun a _ => a, scoreOf := fun l => l.getLast?.join }
  let o0 : Oracle Nat Unit := init () (some 3) 0 3
  let s0 : Oracle Nat Unit × Disk Nat Unit := (o0, writeOracle ⟨fun _ => none, none⟩ o0)
  let d := crashDisk alg s0 [.create 0 7, .update 0 (some 2)] (.endT 0 .completed) 1
  match reload o0 d with
  | some r => r.retryQ == [0] && r.endOrder == [] && r.trials.length == 1
  | none => false
example : demo = true := by decide

end Props.C08
