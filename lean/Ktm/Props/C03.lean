import Ktm.CoreC23
import Ktm.Streak
import Ktm.Props.C01
/-! # C03 — retry and failure policy: INVALID retried, FAILED final, abort exactly on a streak

Model: `Core.endDecision` (what `end_trial` + `_retry` decide), `Core.endT`, `Core.create`,
`Core.hasStreak` (the scanning loop of `_check_consecutive_failures`). `t.runs` is the number of
finished runs of the trial (`_run_times`), `m = max_retries_per_trial`. -/
namespace Props.C03
open Core
variable {V A : Type}

/-- a run that ends INVALID — it raised, or it finished with a NaN objective — below the run limit
`max_retries + 1` leaves the trial INVALID and queues it for retry -/
theorem invalid_is_retried (alg : Alg V A) (m : Nat) (t : Trial V) (oc : Outcome)
    (hinv : oc = .invalid ∨ (oc = .completed ∧ alg.scoreOf t.reports = none)) (hruns : t.runs + 1 < m + 1) :
    (endDecision alg m t oc).retry = true ∧ (endDecision alg m t oc).st = .invalid :=
  invalid_requeued alg m t oc hinv hruns

/-- the `(max_retries + 1)`-th INVALID run makes the trial FAILED, with no further retry -/
theorem failed_at_run_limit (alg : Alg V A) (m : Nat) (t : Trial V) (oc : Outcome)
    (hinv : oc = .invalid ∨ (oc = .completed ∧ alg.scoreOf t.reports = none)) (hruns : ¬ t.runs + 1 < m + 1) :
    (endDecision alg m t oc).retry = false ∧ (endDecision alg m t oc).st = .failed :=
  failed_at_limit alg m t oc hinv hruns

/-- a trial ended FAILED is final at once -/
theorem failed_is_final (alg : Alg V A) (m : Nat) (t : Trial V) :
    (endDecision alg m t .failed).retry = false ∧ (endDecision alg m t .failed).st = .failed :=
  failed_final alg m t

/-- a run (first or retry) that finishes normally with a non-NaN objective makes the trial COMPLETED
with the score of what was reported … -/
theorem completed_with_run_score (alg : Alg V A) (m : Nat) (t : Trial V) (s : Int)
    (hs : alg.scoreOf t.reports = some s) :
    (endDecision alg m t .completed).retry = false ∧ (endDecision alg m t .completed).st = .completed ∧
    (endDecision alg m t .completed).sc = some s :=
  completed_with_score alg m t s hs

/-- … and what was reported is that run's reports only: queuing a trial for retry empties its
reports (and keeps its values), so the retry's score cannot depend on the failed run -/
theorem retry_starts_clean (alg : Alg V A) (o : Oracle V A) (id : Nat) (oc : Outcome) (t : Trial V)
    (ht : o.trials[id]? = some t) (hon : isOngoing o id = true)
    (hr : (endDecision alg o.maxRetries t oc).retry = true) :
    ∃ t', (endT alg o id oc).1.trials[id]? = some t' ∧ t'.reports = [] ∧ t'.vals = t.vals :=
  retry_resets_reports alg o id oc t ht hon hr

/-- pending retries are issued ahead of any new trial, with the same id and values -/
theorem retry_before_new (alg : Alg V A) (o : Oracle V A) (h : Inv o) (tuner c id : Nat)
    (hh : holds o tuner = none) (hq : o.retryQ.getLast? = some id) :
    ∃ t, o.trials[id]? = some t ∧ (create alg o tuner c).2 = .trial id t.vals :=
  let ⟨t, ht, ho, _⟩ := retry_first alg o h tuner c id hh hq
  ⟨t, ht, ho⟩

/-- a trial ended FAILED or COMPLETED is never issued again -/
theorem final_never_reissued (alg : Alg V A) (o : Oracle V A) (h : Inv o) (tuner c id : Nat) (v : V)
    (hend : id ∈ o.endOrder) : (create alg o tuner c).2 ≠ .trial id v :=
  Props.C01.never_reissued alg o h tuner c id v hend

/-- abort exactly on a streak: from a state satisfying the invariant, `end_trial` raises the abort
error iff the finished trials, in finishing order, now contain `max_consecutive_failed_trials` FAILED
in a row (as computed by the scanning loop) -/
theorem abort_iff (alg : Alg V A) (o : Oracle V A) (h : Inv o) (id : Nat) (oc : Outcome) :
    (endT alg o id oc).2 = .abort ↔
      hasStreak o.maxConsec ((endT alg o id oc).1.endOrder.map (statusOf (endT alg o id oc).1.trials)) = true := by
  refine ⟨abort_iff_streak alg o id oc, fun hs => (abort_or_ne _).resolve_right fun hna => ?_⟩
  -- a call that does not abort keeps the invariant, which says there is no streak
  have hno := (inv_end alg o id oc h hna).no_streak
  rw [show (endT alg o id oc).1.maxConsec = o.maxConsec from (step_limits alg o (.endT id oc)).2.2, hs] at hno
  cases hno

/-- the scanning loop finds a streak iff `k` consecutive FAILED exist somewhere in the list -/
theorem scan_is_streak (k : Nat) (hk : 0 < k) (l : List Status) :
    hasStreak k l = true ↔ ∃ pre suf, l = pre ++ List.replicate k Status.failed ++ suf :=
  hasStreak_iff k hk l

/-- non-vacuity: `F F` with limit 2 aborts; `F C F` does not -/
example : let alg : Alg Nat Unit := { populate := fun _ c => ((), .run c), onEnd := fun a _ => a, scoreOf := fun l => l.getLast?.join }
    (run alg (init () none 0 2) [.create 0 1, .endT 0 .failed, .create 0 2, .endT 1 .failed]).aborted = true ∧
    (run alg (init () none 0 2) [.create 0 1, .endT 0 .failed, .create 0 2, .update 1 (some 3), .endT 1 .completed,
        .create 0 3, .endT 2 .failed]).aborted = false := by decide

/-- non-vacuity of the retry clauses: one retry allowed, first run INVALID, retry completes with its own score -/
example : let alg : Alg Nat Unit := { populate := fun _ c => ((), .run c), onEnd := fun a _ => a, scoreOf := fun l => l.getLast?.join }
    let o := run alg (init () none 1 3) [.create 0 1, .update 0 none, .endT 0 .completed, .create 0 9, .update 0 (some 5), .endT 0 .completed]
    (o.trials.map (fun t => (t.status, t.score, t.runs))) = [(.completed, some 5, 2)] := by decide

end Props.C03
