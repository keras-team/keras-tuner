import Ktm.Ranking
import Ktm.Symmetry
/-! # C04 — best trials are the best COMPLETED trials in order; direction is symmetric

Model: `Ranking.bestTrials` (`get_best_trials`: stable sort of the COMPLETED trials by score under the
direction's comparator, padded with the others only when short, cut to `n`), `Metrics.bestValue`
(`score_trial`: best over steps of the per-step mean, NaN ignored unless all NaN), `Core.endDecision`
(NaN ⇒ not COMPLETED), `HB.bestOf` (the winner of a Hyperband promotion). Scores are extended rationals. -/
namespace Props.C04
open Ranking

/-- the COMPLETED part of the answer is ordered by score in the objective's direction -/
theorem best_sorted (m : Bool) (ts : List T) :
    ((ts.filter (·.completed)).mergeSort (le m)).Pairwise (fun a b => le m a b = true) :=
  sorted_pairwise m ts

/-- no running, invalid or failed trial is ever placed ahead of a completed one -/
theorem completed_first (m : Bool) (ts : List T) (n : Nat) :
    ∃ k, ((bestTrials m ts n).take k).all (·.completed) = true ∧
         ((bestTrials m ts n).drop k).all (fun t => !t.completed) = true :=
  completed_prefix m ts n

/-- every n from 1 to beyond the number of trials: the answer has `min n (#completed)` entries when
enough completed trials exist, and is padded (never beyond `n`, never beyond all trials) otherwise -/
theorem best_length (m : Bool) (ts : List T) (n : Nat) :
    (bestTrials m ts n).length =
      if n ≤ (ts.filter (·.completed)).length then n else min n ts.length := by
  have hsplit := (List.filter_append_perm (·.completed) ts).length_eq
  rw [List.length_append] at hsplit
  rw [bestTrials_eq, List.length_take, List.length_append, List.length_mergeSort, hsplit]
  split
  · exact Nat.min_eq_left (by omega)
  · rfl

/-- with at least `n` completed trials the answer is the `n` best: nothing left out beats anything returned -/
theorem best_top_n (m : Bool) (ts : List T) (n : Nat) (hn : n ≤ (ts.filter (·.completed)).length)
    (a b : T) (ha : a ∈ bestTrials m ts n) (hb : b ∈ ts) (hbc : b.completed = true) (hbn : b ∉ bestTrials m ts n) :
    le m a b = true := by
  -- the answer is the first `n` of the sorted list `S`, and `b` is in the rest of `S`
  rw [bestTrials_eq, List.take_append_of_le_length (by rw [List.length_mergeSort]; exact hn)] at ha hbn
  have hsorted := sorted_pairwise m ts
  have hbS : b ∈ (ts.filter (·.completed)).mergeSort (le m) :=
    List.mem_mergeSort.mpr (List.mem_filter.mpr ⟨hb, hbc⟩)
  generalize (ts.filter (·.completed)).mergeSort (le m) = S at *
  rw [← List.take_append_drop n S] at hsorted hbS
  rcases List.mem_append.mp hbS with h | h
  · exact absurd h hbn
  · exact (List.pairwise_append.mp hsorted).2.2 a ha b h

/-- direction symmetry of the ranking: maximising `s` ranks exactly like minimising `−s` -/
theorem ranking_symmetric (ts : List T) (n : Nat) :
    (bestTrials true ts n).map negT = bestTrials false (ts.map negT) n :=
  symmetric ts n

/-- a trial's score is the best value, in the metric's direction, of the per-step means, NaN steps ignored -/
theorem score_is_best_mean (m : Bool) (l : List Metrics.FV) :
    match Metrics.nanBest m l with
    | some b => Metrics.FV.val b ∈ l ∧ ∀ a, Metrics.FV.val a ∈ l → Metrics.leDir m b a = true
    | none => ∀ a, Metrics.FV.val a ∉ l :=
  Metrics.nanBest_spec m l

/-- a NaN among several executions reported at one step is not dropped: that step's mean is NaN (and is then ignored for the best
value unless every step is NaN) — the per-step mean is numpy's `mean`, not `nanmean` -/
theorem nan_execution_makes_the_step_nan (l : List Metrics.FV) (h : Metrics.FV.nan ∈ l) : Metrics.mean l = .nan :=
  Metrics.mean_nan_of_mem l h

/-- a trial whose objective is NaN never counts as completed -/
theorem nan_never_completed {V A : Type} (alg : Core.Alg V A) (maxRetries : Nat) (t : Core.Trial V) (oc : Core.Outcome) :
    (Core.endDecision alg maxRetries t oc).st = .completed → (Core.endDecision alg maxRetries t oc).sc.isSome :=
  (Core.endDecision_spec alg maxRetries t oc).2.2

/-- whole searches are symmetric: two algorithm records that mirror each other (scoring rule of the negated reports =
negated scoring rule; same choice of the next configuration on mirrored states, the algorithm state mapped by `f`) answer
every request list identically — same trial ids, same values, same IDLE / STOPPED / abort, for any number of tuners, any
interleaving and any outcomes — … -/
theorem whole_search_symmetric {V A : Type} (f : A → A) (algMax algMin : Core.Alg V A) (m : Symmetry.MirrorF f algMax algMin)
    (o : Core.Oracle V A) (ops : List Core.Op) :
    Symmetry.outputs algMin (Symmetry.negOf f o) (ops.map Symmetry.negOp) = Symmetry.outputs algMax o ops :=
  Symmetry.mirror_outputs f algMax algMin m ops o

/-- … and end in mirrored states: the same trials, statuses, orders and queues, every score negated -/
theorem whole_search_states_mirror {V A : Type} (f : A → A) (algMax algMin : Core.Alg V A) (m : Symmetry.MirrorF f algMax algMin)
    (o : Core.Oracle V A) (ops : List Core.Op) :
    Core.run algMin (Symmetry.negOf f o) (ops.map Symmetry.negOp) = Symmetry.negOf f (Core.run algMax o ops) :=
  Symmetry.mirror_run f algMax algMin m ops o

/-- random search (and the Bayesian warm-up) and grid search are score-blind, hence symmetric as whole searches: maximising
`s` and minimising `−s` issue the same trials -/
theorem random_search_symmetric {W : Type} [DecidableEq W] (cands : Nat → List W) :
    Symmetry.Mirror (Symmetry.randomAlg false cands) (Symmetry.randomAlg true cands) := Symmetry.random_mirror cands
theorem grid_search_symmetric : Symmetry.Mirror (Symmetry.gridAlg false) (Symmetry.gridAlg true) := Symmetry.grid_mirror

/-- the whole Hyperband oracle is symmetric as well: it reads scores only to pick the promotion winner, and with the
direction flag it carries flipped (`Symmetry.flipDir`) it picks the same trial on the mirrored state -/
theorem hyperband_search_symmetric : Symmetry.MirrorF Symmetry.flipDir HB.alg HB.alg := Symmetry.hyperband_mirror

/-- Hyperband's promotion winner is symmetric: the first optimum when maximising `s` is the first
optimum when minimising `−s` -/
theorem hyperband_winner_symmetric (l : List (Nat × Int)) :
    (HB.bestOf false l).map (fun p => (p.1, -p.2)) = HB.bestOf true (l.map (fun p => (p.1, -p.2))) :=
  (Symmetry.hb_bestOf_neg false l).symm

/-- a test vector (the sort itself is exercised by the correspondence suite, `List.mergeSort` does not reduce in the
kernel): a completed trial and a failed one with a higher score — the failed one is only padding -/
example : bestTrials true [⟨0, true, .fin 1⟩, ⟨1, false, .fin 9⟩] 1 = [⟨0, true, .fin 1⟩] ∧
    bestTrials true [⟨0, true, .fin 1⟩, ⟨1, false, .fin 9⟩] 2 = [⟨0, true, .fin 1⟩, ⟨1, false, .fin 9⟩] := by
  simp [bestTrials]

end Props.C04
