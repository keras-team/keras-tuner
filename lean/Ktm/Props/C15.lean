import Ktm.Codec
import Ktm.Persist
/-! # C15 — config/JSON round trips are lossless for spaces, values, trials and metrics

Model (`Ktm/Codec.lean`): the JSON trees `get_config` / `get_state` produce (`toJ`) and what `from_config` /
`from_state` read back (`fromJ`) for conditions, the five hyperparameter kinds with every configured field,
the container (space in order + values), metric observations / histories / trackers and trials. The text
level (`json.dumps` / `json.loads`) is Python's and is exercised, not modelled; float values are opaque
tokens. Oracle state: `Core.DiskOK` (the disk after a save) / `Core.reload` (C07). -/
namespace Props.C15
open Codec

/-- a hyperparameter comes back with its type, name, conditions, range, step, sampling, explicit default,
choices, `ordered` flag or fixed value — every field -/
theorem hyperparameter_roundtrip (h : HP) : HP.fromJ h.toJ = some h := HP.roundtrip h

/-- a condition comes back with its parent name and its values (typed) -/
theorem condition_roundtrip (c : Cond) : Cond.fromJ c.toJ = some c := Cond.roundtrip c

/-- a search space with a values assignment comes back with every entry, in order, and every value (typed) -/
theorem space_roundtrip (s : Space) : Space.fromJ s.toJ = some s := Space.roundtrip s

/-- "equal in every observable respect": whatever is computed from the reloaded search space — the activity of a name, membership, a
lookup, the completed values — equals what is computed from the original, because the reloaded value is the original. (The
implementation also keeps tables derived from the entries, e.g. the entries per name; that `from_config` rebuilds them correctly is what
the by-name monitors of the `codec` suite check.) -/
theorem every_observation_survives {β : Type} (f : Space → β) (s : Space) : (Space.fromJ s.toJ).map f = some (f s) := by
  rw [Space.roundtrip, Option.map_some]

/-- copying a search space (`from_config ∘ get_config`) yields an equal value; as a value it shares nothing
with the original -/
theorem copy_is_equal (s : Space) : s.copy = some s := Space.roundtrip s

/-- a metric history comes back with its direction and, per step, the list of executions' values -/
theorem history_roundtrip (h : Hist) : Hist.fromJ h.toJ = some h := Hist.roundtrip h

theorem observation_roundtrip (o : Obs) : Obs.fromJ o.toJ = some o := Obs.roundtrip o

/-- a trial comes back with id, hyperparameters, all metric histories, score, best step, status and message -/
theorem trial_roundtrip (t : Trial) : Trial.fromJ t.toJ = some t := Trial.roundtrip t

/-- an oracle's saved state restores every bookkeeping field (ongoing map up to the documented re-queue, retry
queue, end order, run counts, number of trials, algorithm state): `reload ∘ save` (C07) -/
theorem oracle_state_roundtrip {V A : Type} (o cfg : Core.Oracle V A) (d : Core.Disk V A) (hd : Core.DiskOK o d)
    (hcfg : cfg.maxTrials = o.maxTrials ∧ cfg.maxRetries = o.maxRetries ∧ cfg.maxConsec = o.maxConsec ∧ cfg.aborted = o.aborted) :
    ∃ ts' a, Core.reload cfg d = some (Core.requeueWith o ts' a) ∧ ts'.length = o.trials.length ∧
      ∀ (i : Nat), i ∉ o.ongoing.map (·.2) → ts'[i]? = o.trials[i]? :=
  Core.reload_eq_requeue o cfg d hd hcfg

/-- non-vacuity: an `Int` with an explicit default equal to its minimum, under a condition on a Boolean parent -/
example : HP.fromJ (HP.toJ ⟨"n", [⟨"flag", [.bool true]⟩], .int (.int 1) (.int 8) (some (.int 2)) "log" (some (.int 1))⟩) =
    some ⟨"n", [⟨"flag", [.bool true]⟩], .int (.int 1) (.int 8) (some (.int 2)) "log" (some (.int 1))⟩ := HP.roundtrip _

end Props.C15
