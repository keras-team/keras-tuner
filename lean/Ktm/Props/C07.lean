import Ktm.PersistOps
/-! # C07 — saving and reloading an oracle preserves the search and its continuation

Model: `Core.Disk` = one file per trial + the oracle file (`Core.tfileOf`, `Core.ofileOf`: ongoing map,
retry queue, end order, run counts, number of trials, the whole algorithm state), `Core.reload`
(what `Oracle.reload` does on a freshly constructed oracle `cfg`), `Core.writesOf` (which files each
operation writes), `Core.requeueWith` (ongoing trials moved to the retry queue).
"Saved" = an explicit `save()` at an operation boundary after any run of complete operations. -/
namespace Props.C07
open Core
variable {V A : Type}

/-- the disk after an explicit `save()`: the oracle file is exactly the state (algorithm progress
included), every trial that is not running has an up-to-date file -/
def Saved (o : Oracle V A) (d : Disk V A) : Prop := DiskOK o d ∧ d.ofile = some (ofileOf o)

/-- an explicit save of a state whose trial files are consistent produces a `Saved` disk -/
theorem save_gives_saved (o : Oracle V A) (d : Disk V A) (hd : DiskOK o d) : Saved o (writeOracle d o) :=
  ⟨diskOK_writeOracle hd.tfiles, rfl⟩

/-- trial files and oracle file stay consistent with memory along every run of complete operations,
for every algorithm, schedule and outcome pattern (so every reachable state can be saved) -/
theorem reachable_states_saveable (alg : Alg V A) (s : Oracle V A × Disk V A) (ops : List Op)
    (h : Inv s.1) (hd : DiskOK s.1 s.2) :
    (Inv (runD alg s ops).1 ∧ DiskOK (runD alg s ops).1 (runD alg s ops).2) ∨ (runD alg s ops).1.aborted = true :=
  runD_ok alg s ops h hd

/-- reload ∘ save = requeue: every trial that was not running comes back unchanged (values, status,
score, reports, run count), the running ones come back with their values and are queued to run again,
start/end order and retry bookkeeping are restored, and the algorithm state is the saved one -/
theorem reload_saved (o cfg : Oracle V A) (d : Disk V A) (hs : Saved o d)
    (hcfg : cfg.maxTrials = o.maxTrials ∧ cfg.maxRetries = o.maxRetries ∧ cfg.maxConsec = o.maxConsec ∧
      cfg.aborted = o.aborted) :
    ∃ ts', reload cfg d = some (requeueWith o ts' o.alg) ∧ ts'.length = o.trials.length ∧
      (∀ (i : Nat), i ∉ o.ongoing.map (·.2) → ts'[i]? = o.trials[i]?) ∧
      (∀ (i : Nat) (t t' : Trial V), o.trials[i]? = some t → ts'[i]? = some t' → t'.vals = t.vals ∧ t'.runs = t.runs) := by
  obtain ⟨hd, hof⟩ := hs
  obtain ⟨ts', a, hr, hlen, hget, hsame⟩ := reload_of_diskOK o cfg d hd hcfg
  -- the oracle file was written from `o` itself, so the algorithm state on disk is `o`'s
  obtain rfl : a = o.alg := reload_alg hr hof
  refine ⟨ts', hr, hlen, hsame, fun i t t' hi hi' => ?_⟩
  obtain ⟨t'', hti, hv, hruns, _⟩ := hget i t hi
  obtain rfl := Option.some.inj (hti.symm.trans hi')
  exact ⟨hv, hruns⟩

/-- the reloaded oracle satisfies the lifecycle invariant, keeps every ended trial untouched and
outside the retry queue, leaves nothing RUNNING outside the queue, and keeps the trial count -/
theorem reload_is_good (o cfg : Oracle V A) (d : Disk V A) (h : Inv o) (hd : DiskOK o d)
    (hcfg : cfg.maxTrials = o.maxTrials ∧ cfg.maxRetries = o.maxRetries ∧ cfg.maxConsec = o.maxConsec ∧ cfg.aborted = o.aborted) :
    ∃ r, reload cfg d = some r ∧ Inv r ∧
      (∀ i ∈ o.endOrder, r.trials[i]? = o.trials[i]? ∧ i ∉ r.retryQ) ∧
      (∀ (i : Nat) (t : Trial V), r.trials[i]? = some t → t.status = .running → i ∈ r.retryQ) ∧
      r.trials.length = o.trials.length :=
  reload_good o cfg d h hd hcfg

/-- same continuation: after save and reload, every further request list is answered exactly as by
the uninterrupted oracle whose running trials were queued again (same algorithm state, same choices) —
for every algorithm that is a function of the oracle state and its choice stream (random, grid,
Hyperband) -/
theorem continuation (alg : Alg V A) (o cfg : Oracle V A) (d : Disk V A) (hs : Saved o d)
    (hcfg : cfg.maxTrials = o.maxTrials ∧ cfg.maxRetries = o.maxRetries ∧ cfg.maxConsec = o.maxConsec ∧ cfg.aborted = o.aborted) :
    ∃ ts' r, reload cfg d = some r ∧ r = requeueWith o ts' o.alg ∧
      ∀ ops, run alg r ops = run alg (requeueWith o ts' o.alg) ops := by
  obtain ⟨ts', hr, _⟩ := reload_saved o cfg d hs hcfg
  exact ⟨ts', _, hr, rfl, fun _ => rfl⟩

/-- the invariant (hence budget, C02, and every C01 clause) holds along the whole continuation -/
theorem continuation_valid (alg : Alg V A) (o cfg : Oracle V A) (d : Disk V A) (h : Inv o) (hd : DiskOK o d)
    (hcfg : cfg.maxTrials = o.maxTrials ∧ cfg.maxRetries = o.maxRetries ∧ cfg.maxConsec = o.maxConsec ∧ cfg.aborted = o.aborted)
    (ops : List Op) :
    ∃ r, reload cfg d = some r ∧ (Inv (run alg r ops) ∨ (run alg r ops).aborted = true) := by
  obtain ⟨r, hr, hinv, _⟩ := reload_good o cfg d h hd hcfg
  exact ⟨r, hr, inv_reachable alg r ops hinv⟩

/-- non-vacuity: two tuners, one trial finished and one running at save time; after reload the running
one is queued and re-issued first with its values -/
def demo : Bool :=
  let alg : Alg Nat Unit := { populate := fun _ c => ((), .run c), onEnd := fun a _ => a, scoreOf := fun l => l.getLast?.join }
  let s0 : Oracle Nat Unit × Disk Nat Unit := (init () (some 3) 0 3, ⟨fun _ => none, none⟩)
  let s := runD alg (s0.1, writeOracle s0.2 s0.1) [.create 0 7, .create 1 8, .update 0 (some 2), .endT 0 .completed]
  match reload s.1 (writeOracle s.2 s.1) with
  | some r => r.retryQ == [1] && r.endOrder == [0] && r.ongoing == [] &&
      (match (create alg r 5 0).2 with | .trial id v => id == 1 && v == 8 | _ => false)
  | none => false

example : demo = true := by decide

end Props.C07
