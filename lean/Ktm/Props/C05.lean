import Ktm.RandomSeeded
import Ktm.GridTop
import Ktm.HyperbandOracle
import Ktm.Transforms
import Ktm.Continuous
/-! # C05 — issued values cover exactly the active hyperparameters, within their domain

Model: a search space is a parent-first list of entries `GHP` (name, value list, conditions), an
assignment `Env` binds names to values; `enum` = all assignments of the active entries. The three ways an
oracle produces values are `RandomSeeded.randomValues` (random search, Hyperband round 0, Bayesian warm-up),
`Grid.alg` (grid search: trial `i` carries `enum[i]`) and Hyperband promotion (copy of the parent's values).
Domain membership of the value lists themselves is C14 (`Transforms.*`). -/
namespace Props.C05
open Core GridSucc

/-- the central fact: an enumerated assignment binds an entry iff the entry is active under the assignment
itself, and binds it to a member of the entry's value list — none missing, none for inactive entries -/
theorem enumerated_is_exact (hs : List GHP) (e : Env) (hnd : (names hs).Nodup) (hpf : ParentsFirst [] hs)
    (he : e ∈ enum hs []) :
    ∀ g ∈ hs, (active e g = true → ∃ v ∈ g.vals, e.lookup g.name = some v) ∧
              (active e g = false → e.lookup g.name = none) :=
  enum_exact_nil hs e hnd hpf he

/-- sampling oracles: whatever the PRNG draws, the seed and the tried set, a sampled assignment is an
enumerated one, hence exact -/
theorem sampled_is_exact (draw : Nat → Option (Nat × Nat)) (s : RandomSeeded.St)
    (hv : ∀ g ∈ s.space, g.vals ≠ []) (hnd : (names s.space).Nodup) (hpf : ParentsFirst [] s.space)
    (fuel k : Nat) (v : Env) (k' : Nat) (h : RandomSeeded.randomValues draw s fuel k = (some v, k')) :
    ∀ g ∈ s.space, (active v g = true → ∃ x ∈ g.vals, v.lookup g.name = some x) ∧
                   (active v g = false → v.lookup g.name = none) :=
  enumerated_is_exact s.space v hnd hpf (RandomSeeded.randomValues_spec draw s hv fuel k v k' h).1

/-- grid search: every trial of every reachable state carries an enumerated, hence exact, assignment -/
theorem grid_is_exact (space : List GHP) (hs : Grid.SpaceOK space) (hpf : ParentsFirst [] space) (ops : List Op)
    (i : Nat) (t : Trial Env) (ht : (run Grid.alg (Grid.init space) ops).trials[i]? = some t) :
    ∀ g ∈ space, (active t.vals g = true → ∃ x ∈ g.vals, t.vals.lookup g.name = some x) ∧
                 (active t.vals g = false → t.vals.lookup g.name = none) := by
  obtain ⟨g, hsp⟩ := Grid.reachable_init space hs ops
  exact enumerated_is_exact space t.vals hs.names_nodup hpf (List.mem_of_getElem? (hsp ▸ g.vals i t ht))

/-- Hyperband promotion changes only the `tuner/*` entries: the hyperparameter values are the parent's -/
theorem hyperband_promotion_keeps_values (cfg : HB.Cfg) (o : HB.O) (h : HB.HInv cfg o) (hpos : ∀ b, 0 < cfg.size b 0)
    (tuner c : Nat) (v : HB.HV) (hout : (create HB.alg o tuner c).2 = .trial o.trials.length v) (hr : 1 ≤ v.round) :
    ∃ pid pt, v.parent = some pid ∧ o.trials[pid]? = some pt ∧ pt.vals.base = v.base := by
  obtain ⟨_, _, _, _, hpromoted⟩ := ((HB.create_fresh_spec o cfg h hpos tuner c).2.1 v hout).labels rfl
  obtain ⟨pid, pt, hp, hpt, _, hb⟩ := hpromoted hr
  exact ⟨pid, pt, hp, hpt, hb⟩

/-- value lists are the declared domains (stepped linear kinds): every enumerated value lies in `[min, max]`
on the step lattice -/
theorem value_list_in_domain (lo hi : Int) (step : Nat) (hs : 0 < step) (hle : lo ≤ hi) (v : Int)
    (hv : v ∈ Transforms.values lo hi step) : lo ≤ v ∧ v ≤ hi ∧ ∃ k : Nat, v = lo + k * step :=
  (Transforms.mem_values lo hi step hs hle v).mp hv

/-- continuous kinds (`Float` without a step), in real arithmetic: every probability in `[0, 1]` — the bound 1.0 that
the Bayesian optimiser can return included — is mapped into `[min, max]` under linear, log and reverse_log sampling -/
theorem float_value_in_range (lo hi p : ℝ) (hle : lo ≤ hi) (h0 : 0 ≤ p) (h1 : p ≤ 1) :
    (lo ≤ Continuous.sampleLinear lo hi p ∧ Continuous.sampleLinear lo hi p ≤ hi) ∧
    (0 < lo → lo ≤ Continuous.sampleLog lo hi p ∧ Continuous.sampleLog lo hi p ≤ hi) ∧
    (0 < lo → lo ≤ Continuous.sampleRevLog lo hi p ∧ Continuous.sampleRevLog lo hi p ≤ hi) :=
  ⟨Continuous.linear_in_range hle h0 h1, fun hlo => Continuous.log_in_range hlo hle h0 h1,
   fun hlo => Continuous.revlog_in_range hlo hle h0 h1⟩

/-- `Int` without a step: `int(sample(prob, max + 1))` clamped to `max` is a member of `{min, …, max}` for every
probability in `[0, 1]` under all three sampling modes (without the clamp the log modes give `max + 1` at the top end:
defects F11 / F17, repaired) -/
theorem int_value_in_range (lo hi : ℤ) (hle : lo ≤ hi) (p : ℝ) (h0 : 0 ≤ p) (h1 : p ≤ 1) :
    (p < 1 → lo ≤ ⌊Continuous.sampleLinear lo (hi + 1) p⌋ ∧ ⌊Continuous.sampleLinear lo (hi + 1) p⌋ ≤ hi) ∧
    (0 < lo → lo ≤ min ⌊Continuous.sampleLog lo (hi + 1) p⌋ hi ∧ min ⌊Continuous.sampleLog lo (hi + 1) p⌋ hi ≤ hi) ∧
    (0 < lo → lo ≤ min ⌊Continuous.sampleRevLog lo (hi + 1) p⌋ hi ∧ min ⌊Continuous.sampleRevLog lo (hi + 1) p⌋ hi ≤ hi) :=
  ⟨fun hp => Continuous.int_linear_in_range lo hi hle h0 hp, fun hlo => Continuous.int_log_clamped lo hi hlo hle h0 h1,
   fun hlo => Continuous.int_revlog_clamped lo hi hlo hle h0 h1⟩

/-- partial — Bayesian proposals: `_vector_to_values` walks the space like `sample` with probabilities taken
from the optimiser's vector instead of the PRNG, so `sampled_is_exact` covers it for every vector in
`[0,1)^n`; continuous kinds are covered by the two theorems above in real arithmetic; what stays outside is the
floating-point evaluation itself (`math.pow`, rounding of `min + p·(max − min)`): validated per issued trial. -/
theorem bayes_vector_partial (pick : Nat → GHP → Nat) (hs : List GHP) (hv : ∀ g ∈ hs, g.vals ≠ [])
    (hnd : (names hs).Nodup) (hpf : ParentsFirst [] hs) :
    ∀ g ∈ hs, (active (sample pick hs [] 0).1 g = true → ∃ x ∈ g.vals, (sample pick hs [] 0).1.lookup g.name = some x) ∧
              (active (sample pick hs [] 0).1 g = false → (sample pick hs [] 0).1.lookup g.name = none) :=
  enumerated_is_exact hs _ hnd hpf (sample_mem_enum pick hs hv [] 0)

/-- entry 1 is active only when entry 0 = 1: the enumeration binds it exactly there -/
example : enum Grid.demoSpace [] = [[(0, 0), (2, 3)], [(0, 0), (2, 4)], [(0, 1), (1, 5), (2, 3)], [(0, 1), (1, 5), (2, 4)],
    [(0, 1), (1, 6), (2, 3)], [(0, 1), (1, 6), (2, 4)]] := by decide

end Props.C05
