import Ktm.SpaceDisc
import Ktm.SpaceComplete
/-! # C13 — define-by-run lookup, conditional scopes and space discovery work as documented

Model: `Space.S` (the `HyperParameters` container: space in insertion order, values, name-scope and
condition stacks, recorded active / inactive scopes), `Space.run` (an interpreter for build programs:
declarations, name scopes, conditional scopes with eager or lazy children, reads by name),
`Space.updateSpace` (`Oracle.update_space` with the two new-entry flags), `Space.populateInitial` (the
discovery loop of `BaseTuner._populate_initial_space`). Values are integer codes. -/
namespace Props.C13
open Space

/-- lookup while building: asking for a hyperparameter returns the assigned value if it is known and
active, `None` if it is known and its conditions do not hold; if it was not known it is registered and the
answer is the pre-populated value if any, else its default (active) or `None` (inactive) -/
theorem lookup_rules (s : S) (name : String) (dflt : Val) :
    let h : HP := { name := s.qualify name, conds := s.conds, dflt := dflt }
    (s.exists_ h.name h.conds = true → s.isActive h = true → ∀ v, lookup s.values h.name = some v →
        s.retrieve name dflt = .ok (s, some v)) ∧
    (s.exists_ h.name h.conds = true → s.isActive h = false → s.retrieve name dflt = .ok (s, none)) ∧
    (s.exists_ h.name h.conds = false → s.conds.any (·.name == h.name) = false →
        ∃ s', s.retrieve name dflt = .ok (s', if s.isActive h then some ((lookup s.values h.name).getD dflt) else none) ∧
          s'.hps = s.hps ++ [h]) :=
  retrieve_spec s name dflt

/-- reading by name: the value when active; an error when the name exists but is inactive; a different
error when it is unknown -/
theorem read_by_name (s : S) (name : String) :
    (∀ v, lookup s.values (s.qualify name) = some v → s.get name = .ok v) ∧
    (lookup s.values (s.qualify name) = none → s.hps.any (·.name == s.qualify name) = true → s.get name = .error (.inactive (s.qualify name))) ∧
    (lookup s.values (s.qualify name) = none → s.hps.any (·.name == s.qualify name) = false → s.get name = .error (.unknown (s.qualify name))) :=
  get_spec s name

theorem inactive_and_unknown_are_different_errors (n : String) : Err.inactive n ≠ Err.unknown n :=
  nofun

/-- parents before children, for every build program: running any program — any nesting of name scopes
and conditional scopes, eager or lazy children, any pre-populated values — keeps "every condition of an entry
names an entry registered earlier", restores both scope stacks and only appends to the space -/
theorem build_keeps_parents_first (fuel : Nat) (s : S) (prog : List Stmt) (last : Option Val) (g : Good s) :
    Good (run fuel s prog last).1 ∧ (run fuel s prog last).1.conds = s.conds ∧
    (run fuel s prog last).1.nameScopes = s.nameScopes ∧ ∃ ext, (run fuel s prog last).1.hps = s.hps ++ ext :=
  run_good fuel s prog last g

/-- a conditional scope on a parent that is not declared in the enclosing context is rejected -/
theorem scope_requires_parent (fuel : Nat) (s : S) (parent : String) (vals : List Val) (lz : Bool) (body rest : List Stmt)
    (last : Option Val) (h : s.exists_ (s.qualify parent) s.conds = false) :
    run (fuel + 1) s (.condScope parent vals lz body :: rest) last = (s, [.err (.notDefined (s.qualify parent))]) :=
  if_pos (congrArg not h) -- `run` tests `!exists_ …` first

/-- new entries are rejected when `allow_new_entries` is off -/
theorem new_entries_rejected (tuneNew : Bool) (o : S) (hps : List HP) (h : ∃ x ∈ hps, o.exists_ x.name x.conds = false) :
    ∃ e, updateSpace false tuneNew o hps = .error e := by
  obtain ⟨x, hx, hnx⟩ := h
  have hmem : x ∈ hps.filter (fun h => !(o.exists_ h.name h.conds)) := List.mem_filter.mpr ⟨hx, congrArg not hnx⟩
  have hne := List.isEmpty_eq_false_iff.mpr (List.ne_nil_of_mem hmem)
  simp only [updateSpace, hne, Bool.not_false, Bool.and_self, if_true]
  exact ⟨_, rfl⟩

/-- new entries are frozen when `tune_new_entries` is off: the search space does not change, so they keep their
defaults in every trial -/
theorem new_entries_frozen (allowNew : Bool) (o : S) (hps : List HP) (o' : S)
    (h : updateSpace allowNew false o hps = .ok o') : o' = o :=
  (updateSpace_ok h).trans (if_neg Bool.false_ne_true)

/-- with both flags on, new entries are appended to the search space: exactly those that were not there, in order -/
theorem new_entries_added (o : S) (hps : List HP) :
    ∃ o', updateSpace true true o hps = .ok o' ∧ o'.hps = o.hps ++ hps.filter (fun h => !(o.exists_ h.name h.conds)) :=
  updateSpace_adds o hps

/-- the tuner discovers every hyperparameter declared under any nested conditional scope the build function opens:
one build — whatever values the container holds, because the body of a `with hp.conditional_scope(...)` block always
runs — registers every declaration the build function makes outside Python-`if` guards (`Space.eagerDecls`: name
scopes and conditional scopes followed to any depth), under its qualified name and its full condition stack -/
theorem build_registers_every_declaration (fuel : Nat) (s : S) (prog : List Stmt) (last : Option Val) (g : Good s)
    (hok : runOk fuel s prog last = true) :
    ∀ d ∈ eagerDecls fuel s.nameScopes s.conds prog, (run fuel s prog last).1.exists_ d.1 d.2 = true :=
  -- holds of any container: what it rests on (`run_ext`) needs no invariant
  run_registers_eager fuel s prog last hok

/-- after `_populate_initial_space` (new entries allowed and tuned) each of those declarations (`Space.eagerDecls`) is an
entry of the oracle's search space: the first build's registrations are merged, and however many further builds the
activation loop performs, it only ever adds entries (parents before children: `build_keeps_parents_first`) -/
theorem discovery_finds_every_declaration (prog : List Stmt) (o : S) (go : Good (copyOf o)) (fills : List Val) (fuel : Nat)
    (hok : runOk 10000 (copyOf o) prog none = true) :
    ∀ d ∈ eagerDecls 10000 [] [] prog, (populateInitial true true prog o fills (fuel + 1)).o.exists_ d.1 d.2 = true :=
  discovery_registers_eager prog o fills fuel hok

/-- partial — declarations that user code guards with a Python `if` on the parent's value (the model's lazy scopes)
are found only once the activation loop has made their scope active; the loop is modelled (`Space.populateInitial`) and
compared with the real `BaseTuner` construction on every generated program, and a monitor checks completeness on the
implementation; the fixpoint argument "every lazily guarded declaration is eventually executed" is not proved. What is
proved about everything the loop builds is that it is merged parents-first: -/
theorem discovery_partial (fuel : Nat) (hp : S) (prog : List Stmt) (g : Good hp) : PF (run fuel hp prog none).1.hps :=
  (run_good fuel hp prog none g).1.pf

/-- non-vacuity: the repository's own nested example; `c` is active under `a = 3, b = 6`, `f` is not -/
example : (run 100 empty demo none).1.values = [("a", 3), ("b", 6), ("c", 7), ("d/e", 10)] ∧
    ((run 100 empty demo none).1.hps.map (·.name)) = ["a", "b", "c", "d/e", "f", "g/h"] := by decide

end Props.C13
