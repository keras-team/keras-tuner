import Ktm.HyperbandSched
import Ktm.HyperbandOracle
/-! # C10 — Hyperband follows the successive-halving schedule and promotes only winners

Model: `HB.alg` (`HyperbandOracle.populate_space` with brackets as rounds of `(id, past_id)`) over the
generic oracle; `HB.mkCfg` computes sizes and epochs with exact integer arithmetic. A trial's values
are `HB.HV`: the sampled configuration `base` plus the five `tuner/*` entries. -/
namespace Props.C10
open Core HB

/-- `epochs = ⌈max_epochs / factor^(bracket − round)⌉`, exactly (least `e` with `max_epochs ≤ e·factor^(b−r)`) -/
theorem epochs_formula (m f b r : Nat) (hf : 1 ≤ f) :
    m ≤ (mkCfg m f 1 true).epochs b r * f ^ (b - r) ∧ ∀ e, m ≤ e * f ^ (b - r) → (mkCfg m f 1 true).epochs b r ≤ e :=
  epochs_is_ceil m f b r hf

/-- a later round starts where the previous one stopped and never has a smaller budget; the last round
of every bracket trains up to `max_epochs` -/
theorem epochs_monotone (m f b r : Nat) (hf : 1 ≤ f) (hr : r + 1 ≤ b) : epochsOf m f b r ≤ epochsOf m f b (r + 1) :=
  epochs_mono m f b r hf hr
theorem epochs_reach_max (m f b : Nat) (hf : 1 ≤ f) : epochsOf m f b b = m := epochs_last m f b hf

/-- labels follow the schedule, rounds respect their size, parents are legitimate — for every
freshly issued trial in every state satisfying the bracket invariant (`HB.HInv`, which holds in every
reachable state by `schedule_invariant_reachable`):
its epoch budget and starting epoch are those of the (bracket, round) it is recorded in; that round
holds at most its scheduled number of trials; a round-0 trial has no parent and starts at epoch 0; a
promoted trial continues a COMPLETED trial with identical hyperparameter values which is recorded in
the previous round of the same bracket and was not promoted before. -/
theorem issued_trial_follows_schedule (cfg : Cfg) (o : O) (h : HInv cfg o) (hpos : ∀ b, 0 < cfg.size b 0)
    (tuner c : Nat) (v : HV) (hout : (create alg o tuner c).2 = .trial o.trials.length v) :
    v.epochs = cfg.epochs v.bracket v.round ∧
    v.initialEpoch = (if v.round = 0 then 0 else cfg.epochs v.bracket (v.round - 1)) ∧
    (∃ b' ∈ (create alg o tuner c).1.alg.brackets, b'.num = v.bracket ∧
      ∃ l, b'.rounds[v.round]? = some l ∧ ⟨o.trials.length, v.parent⟩ ∈ l ∧ l.length ≤ cfg.size v.bracket v.round ∧
        (pasts l).Nodup ∧
        (∀ pid, v.parent = some pid → ∃ prev, b'.rounds[v.round - 1]? = some prev ∧ pid ∈ prev.map (·.id))) ∧
    (v.round = 0 → v.parent = none) ∧
    (1 ≤ v.round → ∃ pid pt, v.parent = some pid ∧ o.trials[pid]? = some pt ∧ pt.status = .completed ∧ pt.vals.base = v.base) := by
  obtain ⟨he, hi, ⟨b', hb', hB, hnum, l, hl, hmem⟩, h0, h1⟩ := ((create_fresh_spec o cfg h hpos tuner c).2.1 v hout).labels h.cfg_eq
  refine ⟨he, hi, ⟨b', hb', hnum, l, hl, hmem, hnum ▸ hB.size_ok _ l hl, hB.past_nodup _ l hl, fun pid hpid => ?_⟩, h0, h1⟩
  -- a trial with a parent is not in a first round
  have hr : 1 ≤ v.round := Nat.pos_of_ne_zero fun hz => by rw [h0 hz] at hpid; cases hpid
  exact hB.parent_prev hr hl (hpid ▸ hmem)

/-- the bracket invariant (round sizes within schedule, distinct parents, parents in the previous
round, ids known) holds after every request list, from every number of workers, with every outcome -/
theorem schedule_invariant_reachable (cfg : Cfg) (hpos : ∀ b, 0 < cfg.size b 0) (ops : List Op) :
    HInv cfg (run alg (init cfg) ops) :=
  hinv_reachable cfg _ (hinv_init cfg) hpos ops

/-- no round ever holds more trials than scheduled -/
theorem round_size_bound (cfg : Cfg) (hpos : ∀ b, 0 < cfg.size b 0) (ops : List Op) :
    ∀ b ∈ (run alg (init cfg) ops).alg.brackets, ∀ (r : Nat) (l : List Entry), b.rounds[r]? = some l →
      l.length ≤ cfg.size b.num r :=
  fun b hb r l hl => ((schedule_invariant_reachable cfg hpos ops).allB b hb).size_ok r l hl

/-- the exact-arithmetic schedule gives every first round at least one place -/
theorem first_round_has_room (m f it : Nat) (mn : Bool) (hf : 1 ≤ f) : ∀ b, 0 < (mkCfg m f it mn).size b 0 :=
  fun b => size_pos m f b hf

/-- promotion rank: when `pid` is promoted out of round `j` (candidates = COMPLETED, not yet
promoted members; more candidates than will be thrown out; `pid` first optimum), then in every later
state — the round may have grown up to its scheduled size, finished trials keep their scores — fewer
trials of round `j` score strictly better than `pid` than round `j+1` has places. Ties included. -/
theorem promotion_rank (o o' : O) (cfg : Cfg) (bnum j pid : Nat) (sc : Int) (prev cur : List Entry)
    (hprev_nodup : (prev.map (·.id)).Nodup)
    (hsz : cfg.size bnum j - cfg.size bnum (j + 1) < (candidates o prev cur).length)
    (hbest : bestOf cfg.minimize (candidates o prev cur) = some (pid, sc))
    (R : List Nat) (hRn : R.Nodup) (hRlen : R.length ≤ cfg.size bnum j)
    (hgrow : ∀ i ∈ prev.map (·.id), i ∈ R)
    (hfrozen : ∀ (i : Nat) (t : Trial HV), o.trials[i]? = some t → t.status = .completed →
        ∃ t', o'.trials[i]? = some t' ∧ t'.status = .completed ∧ t'.score = t.score) :
    R.countP (beats o' cfg.minimize sc) < cfg.size bnum (j + 1) :=
  promote_rank o o' cfg bnum j pid sc prev cur hprev_nodup hsz hbest R hRn hRlen hgrow hfrozen

/-- non-vacuity: max_epochs 4, factor 2; four workers fill round 0 of bracket 2, three results arrive, the next
request is a promotion of the best one with the labels of bracket 2 round 1 -/
def demo : Bool :=
  let o := run alg (init (mkCfg 4 2 1 true)) [.create 0 1, .create 1 2, .create 2 3, .create 3 4,
    .update 0 (some 5), .endT 0 .completed, .update 1 (some 3), .endT 1 .completed, .update 2 (some 4), .endT 2 .completed]
  match (create alg o 0 9).2 with
  | .trial id v => id == 4 && v.parent == some 1 && v.bracket == 2 && v.round == 1 && v.epochs == 2 && v.initialEpoch == 1 && v.base == 1
  | _ => false
example : demo = true := by decide

end Props.C10
