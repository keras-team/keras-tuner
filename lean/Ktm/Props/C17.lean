import Ktm.Sync
import Ktm.SyncOrig
import Ktm.SyncMulti
import Ktm.SyncPre
/-! # C17 — oracle operations are mutually exclusive, linearizable and never wedge

Model (`Ktm/Sync.lean`): the repaired `synchronized` wrapper as a small-step system over its shared
operations — read the owner table, acquire the per-oracle lock (lookup / creation under the guard is one
atomic step), write the owner, run the wrapped method as a non-atomic read-modify-write of the oracle state
(it may raise before writing), clear the owner, release the lock (in `finally`) — for any number of threads;
a schedule is a list of (thread, does-the-body-raise) choices. `Ktm/SyncOrig.lean` models the wrapper as it
was before the two repairs and proves the failing schedules; `Ktm/SyncMulti.lean`: several oracles, their locks looked
up under the process-wide guard as the code does it; `Ktm/SyncPre.lean`: a call that reads shared state ahead of the lock. -/
namespace Props.C17
open Sync

/-- mutual exclusion: for every number of threads, every schedule and every pattern of raising calls,
at most one thread is between acquiring and releasing the oracle's lock -/
theorem mutual_exclusion (f : Nat → Nat → Nat) (s0 : Nat) (sched : List (Nat × Bool)) (t u : Nat)
    (ht : inCS ((run f (init s0) sched).pc t) = true) (hu : inCS ((run f (init s0) sched).pc u) = true) : t = u :=
  Sync.mutual_exclusion f s0 sched t u ht hu

/-- linearizable: the oracle state after any schedule equals the state obtained by running the calls one
at a time in the order of their writes — no update is lost although every call reads and writes in two steps -/
theorem linearizable (f : Nat → Nat → Nat) (s0 : Nat) (sched : List (Nat × Bool)) :
    (run f (init s0) sched).st = seqState f s0 (run f (init s0) sched).log :=
  Sync.linearizable f s0 sched

/-- an exception does not leave the oracle locked: whenever every thread is between calls — however many
of the calls raised — the lock is free and no owner is recorded -/
theorem no_wedge_after_exception (f : Nat → Nat → Nat) (s0 : Nat) (sched : List (Nat × Bool))
    (hidle : ∀ t, (run f (init s0) sched).pc t = .idle) :
    (run f (init s0) sched).held = none ∧ (run f (init s0) sched).owner = none :=
  Sync.no_wedge f s0 sched hidle

/-- re-entrant calls do not deadlock: a thread inside the wrapped method is the recorded owner, so a nested
synchronized call from it skips the (non-reentrant) lock -/
theorem reentrant_no_deadlock (f : Nat → Nat → Nat) (s0 : Nat) (sched : List (Nat × Bool)) (t : Nat)
    (hin : ownsName ((run f (init s0) sched).pc t) = true) :
    decide ((run f (init s0) sched).owner ≠ some t) = false :=
  decide_eq_false (not_not_intro ((inv_reachable f s0 sched).body_owner t hin))

/-- progress: the only operation that can block is `acquire`, and only while some thread holds the lock;
a thread holding the lock is never blocked, so it always reaches its release -/
theorem only_acquire_blocks (f : Nat → Nat → Nat) (g : G) (t : Nat) (r : Bool) (hb : step f g t r = none) :
    g.pc t = .decided true ∧ g.held ≠ none := by
  unfold step at hb
  generalize g.pc t = p at hb ⊢
  cases p with
  | decided need =>
    cases need with
    | true =>
      refine ⟨rfl, fun hfree => ?_⟩
      rw [if_pos hfree] at hb
      cases hb
    | false => cases hb
  | body1 need => cases r <;> cases hb
  | after need raised => cases need <;> cases hb
  | idle | acquired | body2 _ | cleared _ => cases hb

/-- different oracles do not block each other (`Ktm/SyncMulti.lean`): in every reachable state a thread that cannot move
either waits for the guard, whose holder is in the middle of a lookup, or for the lock of the oracle it is calling, held by
a thread inside a call on that same oracle -/
theorem different_oracles_do_not_block (sched : List (Nat × Nat)) (t o : Nat)
    (hb : SyncMulti.step (SyncMulti.run SyncMulti.init sched) t o = none) :
    (∃ o' u, (SyncMulti.run SyncMulti.init sched).pc t = .decided o' ∧ (SyncMulti.run SyncMulti.init sched).guard = some u ∧
        SyncMulti.isLookup ((SyncMulti.run SyncMulti.init sched).pc u) = true) ∨
    (∃ o' u, (SyncMulti.run SyncMulti.init sched).pc t = .want o' ∧ (SyncMulti.run SyncMulti.init sched).held o' = some u ∧
        SyncMulti.csOf ((SyncMulti.run SyncMulti.init sched).pc u) = some o') :=
  SyncMulti.blocked_only_by_same_oracle _ (SyncMulti.inv_reachable sched) t o hb

/-- the guard is held only during the lookup itself and its holder is never blocked: its next step releases it -/
theorem guard_is_momentary (sched : List (Nat × Nat)) (t o : Nat)
    (hgd : (SyncMulti.run SyncMulti.init sched).guard = some t) :
    (∃ o', (SyncMulti.run SyncMulti.init sched).pc t = .lookup o') ∧
    ∃ g', SyncMulti.step (SyncMulti.run SyncMulti.init sched) t o = some g' ∧ g'.guard = none :=
  ⟨(SyncMulti.guard_only_during_lookup sched t).mp hgd,
   SyncMulti.guard_holder_not_blocked _ (SyncMulti.inv_reachable sched) t o hgd⟩

/-- mutual exclusion holds per oracle in the several-oracle model too -/
theorem mutual_exclusion_per_oracle (sched : List (Nat × Nat)) (o t u : Nat)
    (ht : SyncMulti.csOf ((SyncMulti.run SyncMulti.init sched).pc t) = some o)
    (hu : SyncMulti.csOf ((SyncMulti.run SyncMulti.init sched).pc u) = some o) : t = u :=
  SyncMulti.mutex_per_oracle sched o t u ht hu

/-- a wrapper that keeps the guard while it waits for the oracle's lock breaks the clause: a call on an idle oracle is
blocked behind a thread that merely queues on a busy one -/
theorem guard_kept_while_waiting_blocks_others :
    let g := SyncMulti.runHG SyncMulti.init [(0, 0), (0, 0), (0, 0), (0, 0), (2, 0), (2, 0), (2, 0), (1, 1)]
    g.pc 0 = .body 0 ∧ g.pc 2 = .lookup 0 ∧ g.guard = some 2 ∧ g.pc 1 = .decided 1 ∧ SyncMulti.stepHeldGuard g 1 1 = none :=
  SyncMulti.held_guard_blocks_other_oracle

/-- the wrapper as it was (lock created lazily without a guard, no `try/finally`): the first concurrent use of
a fresh oracle puts two threads inside the method -/
theorem original_wrapper_race :
    (SyncOrig.run SyncOrig.init SyncOrig.raceSchedule).pc 0 = .body ∧ (SyncOrig.run SyncOrig.init SyncOrig.raceSchedule).pc 1 = .body :=
  SyncOrig.race_breaks_mutex

/-- the wrapper as it was: a raising call wedges every other thread -/
theorem original_wrapper_wedges :
    (SyncOrig.run SyncOrig.init SyncOrig.raiseSchedule).pc 0 = .dead ∧ (SyncOrig.run SyncOrig.init SyncOrig.raiseSchedule).held = [0] ∧
    (SyncOrig.run SyncOrig.init SyncOrig.raiseSchedule).owner = some 0 ∧ (SyncOrig.run SyncOrig.init SyncOrig.raiseSchedule).pc 1 = .gotLock 0 :=
  SyncOrig.raise_wedges

/-- non-vacuity: two threads interleaved at every step; the second call raises; final state = f 0 applied once -/
def demoSched : List (Nat × Bool) :=
  [(0, false), (1, false), (0, false), (1, false), (0, false), (0, false), (0, false), (0, false), (0, false),
   (1, false), (1, false), (1, true), (1, false), (1, false)]
def demoF (t s : Nat) : Nat := 3 * s + t + 1
example : (run demoF (init 0) demoSched).st = 1 ∧ (run demoF (init 0) demoSched).log = [0] ∧
    (run demoF (init 0) demoSched).held = none ∧ (run demoF (init 0) demoSched).owner = none := by decide

/-- a wrapper that reads shared state only inside the critical section (the legacy `end_trial(trial_id, status)` conversion after
the repair of F23): for every schedule of any number of space-growing calls and the legacy call, the snapshot it records is the value
of the sequential run in lock order -/
theorem reads_under_the_lock_are_sequential (es : List SyncPre.Ev) :
    ∀ v, (SyncPre.runFix SyncPre.init es).lpc = .done v → v = SyncPre.sequentialSnapshot (0 + SyncPre.growsBeforeLegacy es) :=
  SyncPre.fix_snapshot_is_sequential es SyncPre.init rfl

/-- a read ahead of the lock (the original wrapper) records, on a three-step schedule, a snapshot that the
call's own place in the lock order does not allow -/
theorem read_ahead_of_the_lock_is_not (_ : Unit) :
    (SyncPre.runOrig SyncPre.init SyncPre.badSchedule).lpc = .done 0 ∧ (SyncPre.runOrig SyncPre.init SyncPre.badSchedule).s = 1 ∧
    (SyncPre.runFix SyncPre.init [.grow, .legacyStep]).lpc = .done 1 :=
  ⟨SyncPre.orig_records_stale_snapshot.1, SyncPre.orig_records_stale_snapshot.2, SyncPre.fix_on_the_same_schedule.2⟩

end Props.C17
