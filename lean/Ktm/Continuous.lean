import Mathlib.Analysis.SpecialFunctions.Pow.Real
import Mathlib.Analysis.SpecialFunctions.Log.Basic
/-! C05 / C14 — the continuous (step-less) kinds, in real arithmetic.

`Numerical._sample_numerical_value` and `_numerical_to_prob` as the code writes them:

* linear:       `prob * (max - min) + min`,                          inverse `(v - min) / (max - min)`
* log:          `min * (max / min) ** prob`,                         inverse `log(v / min) / log(max / min)`
* reverse_log:  `max + min - min * (max / min) ** (1 - prob)`,       inverse `1 - log((max + min - v) / min) / log(max / min)`
* `Int` without a step: `int(sample(prob, max + 1))`, clamped to `max` (defects F11 / F17, repaired).

Proved over ℝ (the only proof file of the development that imports Mathlib; it is not imported by the driver):
every probability in `[0, 1]` is mapped into `[min, max]`; for `min < max` the two maps are inverse to each other on
`[0, 1]` resp. `[min, max]` (reverse_log: probability → value → probability only); an `Int` without a step lands in
`{min, …, max}` for every probability in `[0, 1]` — with the clamp — and already without it for probabilities below 1
under linear sampling. Floating-point rounding is outside (the property says "floats up to rounding"); the `transforms`
suite compares the implementation's doubles with these formulas on every generated case. The range facts come from
monotonicity in the probability and the values at 0 and 1; reverse_log is log reflected (`sampleRevLog_eq`,
`probRevLog_eq`). -/
namespace Continuous
open Real

noncomputable def sampleLinear (lo hi p : ℝ) : ℝ := p * (hi - lo) + lo
noncomputable def sampleLog (lo hi p : ℝ) : ℝ := lo * (hi / lo) ^ p
noncomputable def sampleRevLog (lo hi p : ℝ) : ℝ := hi + lo - lo * (hi / lo) ^ (1 - p)

noncomputable def probLinear (lo hi v : ℝ) : ℝ := (v - lo) / (hi - lo)
noncomputable def probLog (lo hi v : ℝ) : ℝ := Real.log (v / lo) / Real.log (hi / lo)
noncomputable def probRevLog (lo hi v : ℝ) : ℝ := 1 - Real.log ((hi + lo - v) / lo) / Real.log (hi / lo)

theorem sampleLinear_zero (lo hi : ℝ) : sampleLinear lo hi 0 = lo := by
  unfold sampleLinear
  rw [zero_mul, zero_add]

theorem sampleLinear_one (lo hi : ℝ) : sampleLinear lo hi 1 = hi := by
  unfold sampleLinear
  rw [one_mul, sub_add_cancel]

theorem sampleLinear_mono {lo hi : ℝ} (hle : lo ≤ hi) {p q : ℝ} (h : p ≤ q) : sampleLinear lo hi p ≤ sampleLinear lo hi q :=
  add_le_add_left (mul_le_mul_of_nonneg_right h (sub_nonneg.mpr hle)) lo

theorem sampleLinear_strictMono {lo hi : ℝ} (hlt : lo < hi) {p q : ℝ} (h : p < q) : sampleLinear lo hi p < sampleLinear lo hi q :=
  add_lt_add_left (mul_lt_mul_of_pos_right h (sub_pos.mpr hlt)) lo

theorem linear_in_range {lo hi p : ℝ} (hle : lo ≤ hi) (h0 : 0 ≤ p) (h1 : p ≤ 1) :
    lo ≤ sampleLinear lo hi p ∧ sampleLinear lo hi p ≤ hi :=
  ⟨(sampleLinear_zero lo hi).ge.trans (sampleLinear_mono hle h0), (sampleLinear_mono hle h1).trans (sampleLinear_one lo hi).le⟩

theorem sampleLog_zero (lo hi : ℝ) : sampleLog lo hi 0 = lo := by
  unfold sampleLog
  rw [Real.rpow_zero, mul_one]

theorem sampleLog_one {lo : ℝ} (hi : ℝ) (hlo : 0 < lo) : sampleLog lo hi 1 = hi := by
  unfold sampleLog
  rw [Real.rpow_one, mul_div_cancel₀ hi hlo.ne']

theorem sampleLog_mono {lo hi : ℝ} (hlo : 0 < lo) (hle : lo ≤ hi) {p q : ℝ} (h : p ≤ q) : sampleLog lo hi p ≤ sampleLog lo hi q :=
  mul_le_mul_of_nonneg_left (Real.rpow_le_rpow_of_exponent_le ((one_le_div hlo).mpr hle) h) hlo.le

theorem log_in_range {lo hi p : ℝ} (hlo : 0 < lo) (hle : lo ≤ hi) (h0 : 0 ≤ p) (h1 : p ≤ 1) :
    lo ≤ sampleLog lo hi p ∧ sampleLog lo hi p ≤ hi :=
  ⟨(sampleLog_zero lo hi).ge.trans (sampleLog_mono hlo hle h0), (sampleLog_mono hlo hle h1).trans (sampleLog_one hi hlo).le⟩

theorem sampleRevLog_eq (lo hi p : ℝ) : sampleRevLog lo hi p = hi + lo - sampleLog lo hi (1 - p) := rfl

theorem probRevLog_eq (lo hi v : ℝ) : probRevLog lo hi v = 1 - probLog lo hi (hi + lo - v) := rfl

theorem revlog_in_range {lo hi p : ℝ} (hlo : 0 < lo) (hle : lo ≤ hi) (h0 : 0 ≤ p) (h1 : p ≤ 1) :
    lo ≤ sampleRevLog lo hi p ∧ sampleRevLog lo hi p ≤ hi := by
  have h := log_in_range hlo hle (sub_nonneg.mpr h1) (sub_le_self 1 h0)
  rw [sampleRevLog_eq]
  constructor
  · exact le_sub_iff_add_le.mpr ((add_le_add_right h.2 lo).trans_eq (add_comm lo hi))
  · exact sub_le_iff_le_add.mpr (add_le_add_right h.1 hi)

theorem linear_prob_of_sample {lo hi p : ℝ} (hlt : lo < hi) : probLinear lo hi (sampleLinear lo hi p) = p := by
  unfold probLinear sampleLinear
  rw [add_sub_cancel_right, mul_div_cancel_right₀ p (sub_ne_zero.mpr hlt.ne')]

theorem linear_sample_of_prob {lo hi v : ℝ} (hlt : lo < hi) : sampleLinear lo hi (probLinear lo hi v) = v := by
  unfold probLinear sampleLinear
  rw [div_mul_cancel₀ _ (sub_ne_zero.mpr hlt.ne'), sub_add_cancel]

theorem log_ratio_pos {lo hi : ℝ} (hlo : 0 < lo) (hlt : lo < hi) : 0 < Real.log (hi / lo) :=
  Real.log_pos ((one_lt_div hlo).mpr hlt)

theorem log_prob_of_sample {lo hi p : ℝ} (hlo : 0 < lo) (hlt : lo < hi) : probLog lo hi (sampleLog lo hi p) = p := by
  unfold probLog sampleLog
  rw [mul_div_cancel_left₀ _ hlo.ne', Real.log_rpow (div_pos (hlo.trans hlt) hlo),
    mul_div_cancel_right₀ p (log_ratio_pos hlo hlt).ne']

theorem log_sample_of_prob {lo hi v : ℝ} (hlo : 0 < lo) (hlt : lo < hi) (hv : 0 < v) : sampleLog lo hi (probLog lo hi v) = v := by
  unfold probLog sampleLog
  rw [Real.rpow_def_of_pos (div_pos (hlo.trans hlt) hlo), mul_div_cancel₀ _ (log_ratio_pos hlo hlt).ne',
    Real.exp_log (div_pos hv hlo), mul_div_cancel₀ v hlo.ne']

theorem revlog_prob_of_sample {lo hi p : ℝ} (hlo : 0 < lo) (hlt : lo < hi) : probRevLog lo hi (sampleRevLog lo hi p) = p := by
  rw [probRevLog_eq, sampleRevLog_eq, sub_sub_cancel, log_prob_of_sample hlo hlt, sub_sub_cancel]

theorem cast_lt_succ {lo hi : ℤ} (hle : lo ≤ hi) : (lo : ℝ) < (hi : ℝ) + 1 :=
  (Int.cast_le.mpr hle).trans_lt (lt_add_one _)

/-- `int(x)` is modelled by the floor. Python truncates toward zero: that is the floor when `x ≥ 0` (the arguments that
    occur are `x ≥ min_value`, and `min_value ≥ 1` under log sampling), and for negative linear ranges truncation only
    moves the value up, towards the range -/
theorem int_linear_in_range (lo hi : ℤ) (hle : lo ≤ hi) {p : ℝ} (h0 : 0 ≤ p) (h1 : p < 1) :
    lo ≤ ⌊sampleLinear lo (hi + 1) p⌋ ∧ ⌊sampleLinear lo (hi + 1) p⌋ ≤ hi :=
  have hlt := cast_lt_succ hle
  -- below probability 1 the sample stays below `max + 1`, its value at 1
  ⟨Int.le_floor.mpr (linear_in_range hlt.le h0 h1.le).1,
   Int.floor_le_iff.mpr ((sampleLinear_strictMono hlt h1).trans_eq (sampleLinear_one _ _))⟩

/-- the clamp `min(value, max_value)` puts every `x ≥ min` into `{min, …, max}`, hence the sample at every probability in
    `[0, 1]`, the bound 1.0 included (the Bayesian optimiser returns it), under all three sampling modes -/
theorem int_clamped_in_range (lo hi : ℤ) (hle : lo ≤ hi) (x : ℝ) (hx : (lo : ℝ) ≤ x) :
    lo ≤ min ⌊x⌋ hi ∧ min ⌊x⌋ hi ≤ hi :=
  ⟨le_min (Int.le_floor.mpr hx) hle, min_le_right _ _⟩

theorem int_log_clamped (lo hi : ℤ) (hlo : 0 < lo) (hle : lo ≤ hi) {p : ℝ} (h0 : 0 ≤ p) (h1 : p ≤ 1) :
    lo ≤ min ⌊sampleLog lo (hi + 1) p⌋ hi ∧ min ⌊sampleLog lo (hi + 1) p⌋ hi ≤ hi :=
  int_clamped_in_range lo hi hle _ (log_in_range (Int.cast_pos.mpr hlo) (cast_lt_succ hle).le h0 h1).1

theorem int_revlog_clamped (lo hi : ℤ) (hlo : 0 < lo) (hle : lo ≤ hi) {p : ℝ} (h0 : 0 ≤ p) (h1 : p ≤ 1) :
    lo ≤ min ⌊sampleRevLog lo (hi + 1) p⌋ hi ∧ min ⌊sampleRevLog lo (hi + 1) p⌋ hi ≤ hi :=
  int_clamped_in_range lo hi hle _ (revlog_in_range (Int.cast_pos.mpr hlo) (cast_lt_succ hle).le h0 h1).1

/-- non-vacuity: `Float(1, 100, sampling="log")` at probability 1/2 is 10 -/
example : sampleLog 1 100 (1 / 2) = 10 := by
  unfold sampleLog
  have h : ((100 : ℝ) / 1) = 10 ^ (2 : ℝ) := by norm_num
  rw [h, ← Real.rpow_mul (by norm_num)]
  norm_num

end Continuous
