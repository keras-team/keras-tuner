import Ktm.CoreOps
/-! The lifecycle invariant (C01) and its preservation. A trial is in one of three places: held by a tuner, waiting for a
retry, ended. `Inv` says so with fields about the three lists one by one; the same is: the lists together are a permutation of
the stored ids (`Placed`). An operation moves an id from one place to another, which is a permutation, so `Placed` is the form
in which the invariant is carried through the operations (`Placed.reissue`, `issue_run`, `settle`), and `Inv` the form in
which it is read. -/
namespace Core
variable {V A : Type}

/-- location-based lifecycle invariant: every stored trial is in exactly one of ongoing / retry queue /
    end order; status is constrained by the location (RUNNING when ongoing, COMPLETED/FAILED when ended,
    anything while waiting for a retry — after a reload that is RUNNING, or whatever the trial file said) -/
structure Inv (o : Oracle V A) : Prop where
  ongoing_run : ∀ p ∈ o.ongoing, ∃ t, o.trials[p.2]? = some t ∧ t.status = .running
  ongoing_tuners : (o.ongoing.map (·.1)).Nodup
  ongoing_ids : (o.ongoing.map (·.2)).Nodup
  retry_ok : ∀ i ∈ o.retryQ, ∃ t, o.trials[i]? = some t
  retry_nodup : o.retryQ.Nodup
  retry_not_ongoing : ∀ i ∈ o.retryQ, i ∉ o.ongoing.map (·.2)
  retry_not_end : ∀ i ∈ o.retryQ, i ∉ o.endOrder
  end_ok : ∀ i ∈ o.endOrder, ∃ t, o.trials[i]? = some t ∧ (t.status = .completed ∨ t.status = .failed)
  end_nodup : o.endOrder.Nodup
  cover : ∀ (i : Nat) (t : Trial V), o.trials[i]? = some t →
      i ∈ o.ongoing.map (·.2) ∨ i ∈ o.retryQ ∨ i ∈ o.endOrder
  scored : ∀ i ∈ o.endOrder, ∀ (t : Trial V), o.trials[i]? = some t → t.status = .completed → t.score.isSome
  budget : ∀ m, o.maxTrials = some m → o.trials.length ≤ m
  no_streak : hasStreak o.maxConsec (o.endOrder.map (statusOf o.trials)) = false
  not_aborted : o.aborted = false

theorem status_ne {t : Trial V} {s s' : Status} (h : t.status = s) (hne : s ≠ s') : t.status ≠ s' := by
  rw [h]; exact hne

def places (o : Oracle V A) : List Nat := o.ongoing.map (·.2) ++ (o.retryQ ++ o.endOrder)

structure Placed (o : Oracle V A) : Prop where
  tuners : (o.ongoing.map (·.1)).Nodup
  perm : (places o).Perm (List.range o.trials.length)
  running : ∀ i ∈ o.ongoing.map (·.2), ∀ t, o.trials[i]? = some t → t.status = .running
  ended : ∀ i ∈ o.endOrder, ∀ t, o.trials[i]? = some t →
    (t.status = .completed ∧ t.score.isSome) ∨ t.status = .failed
  budget : ∀ m, o.maxTrials = some m → o.trials.length ≤ m
  no_streak : hasStreak o.maxConsec (o.endOrder.map (statusOf o.trials)) = false
  not_aborted : o.aborted = false

theorem Inv.ended_not_running {o : Oracle V A} (h : Inv o) {i : Nat} (hi : i ∈ o.endOrder) {t : Trial V}
    (ht : o.trials[i]? = some t) : t.status ≠ .running := by
  obtain ⟨t', ht', hs⟩ := h.end_ok i hi
  obtain rfl := Option.some.inj (ht'.symm.trans ht)
  exact hs.elim (status_ne · nofun) (status_ne · nofun)

theorem Inv.ongoing_facts {o : Oracle V A} (h : Inv o) {id : Nat} (hon : id ∈ o.ongoing.map (·.2)) :
    (∃ t, o.trials[id]? = some t ∧ t.status = .running) ∧ id ∉ o.retryQ ∧ id ∉ o.endOrder := by
  obtain ⟨p, hp, rfl⟩ := List.mem_map.mp hon
  obtain ⟨t, ht, hst⟩ := h.ongoing_run p hp
  exact ⟨⟨t, ht, hst⟩, fun hm => h.retry_not_ongoing _ hm hon, fun hm => h.ended_not_running hm ht hst⟩

theorem Inv.placed {o : Oracle V A} (h : Inv o) : Placed o := by
  refine ⟨h.ongoing_tuners, ?_, ?_, ?_, h.budget, h.no_streak, h.not_aborted⟩
  · -- the three lists are duplicate-free and pairwise disjoint, and hold exactly the stored ids
    have hnd : (places o).Nodup :=
      List.nodup_append.mpr ⟨h.ongoing_ids,
        List.nodup_append.mpr ⟨h.retry_nodup, h.end_nodup, fun a ha b hb e => h.retry_not_end a ha (e ▸ hb)⟩,
        fun a ha b hb e => by
          subst e
          rcases List.mem_append.mp hb with hb | hb
          · exact h.retry_not_ongoing a hb ha
          · exact (h.ongoing_facts ha).2.2 hb⟩
    refine (List.perm_ext_iff_of_nodup hnd List.nodup_range).mpr fun i => ?_
    simp only [places, List.mem_append, List.mem_range]
    constructor
    · rintro (hi | hi | hi)
      · obtain ⟨⟨t, ht, _⟩, _⟩ := h.ongoing_facts hi; exact List.lt_length_of_getElem? ht
      · obtain ⟨t, ht⟩ := h.retry_ok i hi; exact List.lt_length_of_getElem? ht
      · obtain ⟨t, ht, _⟩ := h.end_ok i hi; exact List.lt_length_of_getElem? ht
    · intro hi; exact h.cover i _ (List.getElem?_eq_getElem hi)
  · intro i hi t ht
    obtain ⟨⟨t', ht', hs⟩, _⟩ := h.ongoing_facts hi
    rw [ht] at ht'
    cases ht'
    exact hs
  · intro i hi t ht
    obtain ⟨t', ht', hs⟩ := h.end_ok i hi
    rw [ht] at ht'; cases ht'
    rcases hs with hs | hs
    · exact .inl ⟨hs, h.scored i hi t ht hs⟩
    · exact .inr hs

theorem Placed.inv {o : Oracle V A} (h : Placed o) : Inv o := by
  -- a permutation of `range n` has no duplicates, so the three lists have none and are pairwise disjoint
  obtain ⟨hon, hre, hdon⟩ := List.nodup_append.mp (h.perm.symm.nodup List.nodup_range)
  obtain ⟨hrq, heo, hdrq⟩ := List.nodup_append.mp hre
  have hmem : ∀ i, i ∈ places o ↔ i < o.trials.length := fun i => h.perm.mem_iff.trans List.mem_range
  have get : ∀ i, i ∈ places o → ∃ t, o.trials[i]? = some t := fun i hi => ⟨_, List.getElem?_eq_getElem ((hmem i).mp hi)⟩
  have inm : ∀ {i}, i ∈ o.retryQ → i ∈ places o := fun hi => List.mem_append_right _ (List.mem_append_left _ hi)
  have inr : ∀ {i}, i ∈ o.endOrder → i ∈ places o := fun hi => List.mem_append_right _ (List.mem_append_right _ hi)
  refine
    { ongoing_tuners := h.tuners, ongoing_ids := hon, retry_nodup := hrq, end_nodup := heo
      budget := h.budget, no_streak := h.no_streak, not_aborted := h.not_aborted
      retry_ok := fun i hi => get i (inm hi)
      retry_not_ongoing := fun i hi hm => hdon i hm i (List.mem_append_left _ hi) rfl
      retry_not_end := fun i hi hm => hdrq i hi i hm rfl
      ongoing_run := ?_, end_ok := ?_, cover := ?_, scored := ?_ }
  · intro p hp
    have hi : p.2 ∈ o.ongoing.map (·.2) := List.mem_map_of_mem hp
    obtain ⟨t, ht⟩ := get _ (List.mem_append_left _ hi)
    exact ⟨t, ht, h.running _ hi t ht⟩
  · intro i hi
    obtain ⟨t, ht⟩ := get _ (inr hi)
    exact ⟨t, ht, (h.ended i hi t ht).elim (fun hc => .inl hc.1) .inr⟩
  · intro i t ht
    simpa only [places, List.mem_append] using (hmem i).mpr (List.lt_length_of_getElem? ht)
  · intro i hi t ht hs
    exact (h.ended i hi t ht).elim (·.2) (fun hf => nomatch hf.symm.trans hs)

theorem statusOf_setTrial (ts : List (Trial V)) (id i : Nat) {f : Trial V → Trial V} (hf : ∀ t, (f t).status = t.status) :
    statusOf (setTrial ts id f) i = statusOf ts i := by
  unfold statusOf
  by_cases h : id = i
  · subst h
    rw [getElem?_setTrial_self]
    cases ts[id]? with
    | none => rfl
    | some t => exact hf t
  · rw [getElem?_setTrial_ne ts f h]

/-- the invariant reads of a record only its status and its score, and does not mention `alg` -/
theorem Placed.congr {o : Oracle V A} (h : Placed o) (id : Nat) (f : Trial V → Trial V)
    (hst : ∀ t, (f t).status = t.status) (hsc : ∀ t, (f t).score = t.score) (a : A) :
    Placed { o with trials := setTrial o.trials id f, alg := a } := by
  refine ⟨h.tuners, (length_setTrial ..).symm ▸ h.perm, ?_, ?_, (length_setTrial ..).symm ▸ h.budget, ?_, h.not_aborted⟩
  · intro i hi t ht
    obtain ⟨t0, ht0, e⟩ := List.getElem?_of_map_eq (map_setTrial (g := (·.status)) hst) ht
    exact e ▸ h.running i hi t0 ht0
  · intro i hi t ht
    obtain ⟨t0, ht0, e⟩ :=
      List.getElem?_of_map_eq (map_setTrial (g := fun t => (t.status, t.score)) fun t => by rw [hst, hsc]) ht
    obtain ⟨e1, e2⟩ := Prod.mk.inj e
    exact e1 ▸ e2 ▸ h.ended i hi t0 ht0
  · exact (List.map_congr_left fun i _ => statusOf_setTrial o.trials id i hst).symm ▸ h.no_streak

theorem Inv.congr {o : Oracle V A} (h : Inv o) (id : Nat) (f : Trial V → Trial V)
    (hst : ∀ t, (f t).status = t.status) (hsc : ∀ t, (f t).score = t.score) (a : A) :
    Inv { o with trials := setTrial o.trials id f, alg := a } :=
  (h.placed.congr id f hst hsc a).inv

theorem Placed.frame {o : Oracle V A} (h : Placed o) (a : A) (tids : List Nat) :
    Placed { o with alg := a, tunerIds := tids } :=
  ⟨h.tuners, h.perm, h.running, h.ended, h.budget, h.no_streak, h.not_aborted⟩

/-- of the ended trials the invariant reads the end order and the records it lists, nothing else -/
theorem Placed.ended_of_same {o : Oracle V A} (h : Placed o) {ts' : List (Trial V)}
    (hsame : ∀ i ∈ o.endOrder, ts'[i]? = o.trials[i]?) :
    (∀ i ∈ o.endOrder, ∀ t, ts'[i]? = some t → (t.status = .completed ∧ t.score.isSome) ∨ t.status = .failed) ∧
    hasStreak o.maxConsec (o.endOrder.map (statusOf ts')) = false := by
  refine ⟨fun i hi t ht => h.ended i hi t (hsame i hi ▸ ht), ?_⟩
  have hst : ∀ i ∈ o.endOrder, statusOf ts' i = statusOf o.trials i := fun i hi => by
    unfold statusOf
    rw [hsame i hi]
  exact (List.map_congr_left hst).symm ▸ h.no_streak

theorem nodup_tuners_concat {l : List (Nat × Nat)} {t : Nat} (h : (l.map (·.1)).Nodup) (ht : l.lookup t = none) {id : Nat} :
    ((l ++ [(t, id)]).map (·.1)).Nodup := by
  rw [List.map_append]
  exact List.nodup_append_singleton.mpr ⟨h, List.lookup_eq_none_iff_not_mem_keys.mp ht⟩

theorem Placed.issue_run {o : Oracle V A} (h : Placed o) {t : Nat} (ht : holds o t = none)
    (hb : budgetReached o = false) (a : A) (v : V) : Placed (issue o t (a, .run v)).1 := by
  -- the ended trials have ids below the new one
  obtain ⟨hended, hstreak⟩ := h.ended_of_same (ts' := o.trials ++ [_]) fun i hi =>
    let ⟨_, ht, _⟩ := h.inv.end_ok i hi
    List.getElem?_append_left (List.lt_length_of_getElem? ht)
  refine ⟨?_, ?_, ?_, hended, ?_, hstreak, h.not_aborted⟩
  · exact nodup_tuners_concat h.tuners ht
  · -- the new id joins the first list, and `range (n + 1)` is `range n ++ [n]`
    show ((o.ongoing ++ [(t, o.trials.length)]).map (·.2) ++ _).Perm (List.range (o.trials ++ [_]).length)
    rw [List.length_append, List.length_singleton, List.range_succ, List.map_append]
    exact ((List.perm_append_singleton _ _).append_right _).trans
      ((h.perm.cons _).trans (List.perm_append_singleton _ _).symm)
  · intro i hi t' ht'
    rcases List.getElem?_concat_some ht' with hold | ⟨_, rfl⟩
    · exact h.running i ((mem_ids_concat (Nat.ne_of_lt (List.lt_length_of_getElem? hold))).mp hi) t' hold
    · rfl
  · intro m hm
    exact List.length_append ▸ length_lt_of_budgetReached_false hb hm

protected theorem Placed.reissue {o : Oracle V A} (h : Placed o) {t id : Nat} (ht : holds o t = none)
    (hq : o.retryQ.getLast? = some id) : Placed (reissue o t id) := by
  -- `id` was queued, so it is not one of the ended trials
  obtain ⟨hended, hstreak⟩ := h.ended_of_same (ts' := setTrial o.trials id _) fun i hi =>
    getElem?_setTrial_ne _ _ fun e => h.inv.retry_not_end id (List.mem_of_getLast? hq) (e ▸ hi)
  refine ⟨?_, ?_, ?_, hended, (length_setTrial ..).symm ▸ h.budget, hstreak, h.not_aborted⟩
  · exact nodup_tuners_concat h.tuners ht
  · -- the same ids: `id` has moved from the end of the queue to the end of the first list
    refine .trans ?_ ((length_setTrial ..).symm ▸ h.perm)
    obtain ⟨q, hq'⟩ := List.getLast?_eq_some_iff.mp hq
    show ((o.ongoing ++ [(t, id)]).map (·.2) ++ (o.retryQ.dropLast ++ o.endOrder)).Perm (places o)
    rw [places, hq', List.dropLast_concat, List.map_append]
    exact ((List.perm_append_singleton id _).append_right _).trans
      (List.append_perm_cons_append ((List.perm_append_singleton id _).append_right _)).symm
  · intro i hi t' ht'
    by_cases he : id = i
    · subst he
      obtain ⟨t0, _, rfl⟩ := Option.map_eq_some_iff.mp ((getElem?_setTrial_self ..).symm.trans ht')
      rfl
    · exact h.running i ((mem_ids_concat (Ne.symm he)).mp hi) t' (getElem?_setTrial_ne _ _ he ▸ ht')

theorem inv_create (alg : Alg V A) (o : Oracle V A) (tuner choice : Nat) (h : Inv o) :
    Inv (create alg o tuner choice).1 := by
  have hask : Placed (asking o tuner) := h.placed.frame o.alg _
  apply create_cases_coarse alg o tuner choice (motive := fun r => Inv r.1)
  case same => exact fun a tids _ _ => (h.placed.frame a tids).inv
  case retry => exact fun id _ hh hq _ => (hask.reissue hh hq).inv
  case fresh => exact fun a v hh hb => (hask.issue_run hh hb a v).inv

theorem inv_update (o : Oracle V A) (id : Nat) (r : Option Int) (h : Inv o) : Inv (update o id r).1 :=
  update_cases o id r (motive := fun r => Inv r.1) h
    (fun _ _ => h.congr id (fun t => { t with reports := t.reports ++ [r] }) (fun _ => rfl) (fun _ => rfl) o.alg)

protected theorem Placed.settle (alg : Alg V A) {o : Oracle V A} (h : Placed o) {id : Nat} (hon : id ∈ o.ongoing.map (·.2))
    (runs : Nat) {d : EndDecision}
    (hfin : d.retry = false → ((d.st = .completed ∧ d.sc.isSome) ∨ d.st = .failed) ∧
      hasStreak o.maxConsec ((o.endOrder ++ [id]).map (statusOf (setTrial o.trials id (d.record runs)))) = false) :
    Placed (settle alg o id runs d) := by
  have other : ∀ {i}, i ≠ id → (setTrial o.trials id (d.record runs))[i]? = o.trials[i]? :=
    fun hne => getElem?_setTrial_ne _ _ (Ne.symm hne)
  -- `id` was ongoing, so it is not one of the trials that had ended before
  obtain ⟨hended, hstreak⟩ := h.ended_of_same (ts' := setTrial o.trials id (d.record runs)) fun i hi =>
    other fun e => (h.inv.ongoing_facts hon).2.2 (e ▸ hi)
  refine ⟨h.tuners.sublist (List.filter_sublist.map _), ?_, ?_, ?_, (length_setTrial ..).symm ▸ h.budget, ?_, h.not_aborted⟩
  · -- the same ids: both sides are `id` in front of what is left of `ongoing`, the queue and the end order
    refine .trans ?_ ((length_setTrial ..).symm ▸ h.perm)
    have hmid : ((settle alg o id runs d).retryQ ++ (settle alg o id runs d).endOrder).Perm
        (id :: (o.retryQ ++ o.endOrder)) := by
      simp only [settle]
      cases d.retry
      · exact List.append_perm_cons_append (List.perm_append_singleton id _)
      · exact (List.perm_append_singleton id _).append_right _
    show List.Perm ((o.ongoing.filter (fun p => p.2 != id)).map (·.2) ++ _) _
    rw [List.map_filter_ne_eq_erase h.inv.ongoing_ids id]
    exact (List.append_perm_cons_append hmid).trans ((List.perm_cons_erase hon).append_right _).symm
  · intro i hi t ht
    obtain ⟨hi, hne⟩ := List.mem_map_filter_ne.mp hi
    exact h.running i hi t (other hne ▸ ht)
  · intro i hi t ht
    simp only [settle] at hi
    split at hi
    · exact hended i hi t ht
    · next hr =>
      rcases List.mem_append.mp hi with hi | hi
      · exact hended i hi t ht
      · obtain rfl := List.mem_singleton.mp hi
        obtain ⟨t0, _, rfl⟩ := Option.map_eq_some_iff.mp ((getElem?_setTrial_self ..).symm.trans ht)
        exact (hfin (Bool.eq_false_iff.mpr hr)).1
  · simp only [settle]
    split
    · exact hstreak
    · next hr => exact (hfin (Bool.eq_false_iff.mpr hr)).2

theorem inv_end (alg : Alg V A) (o : Oracle V A) (id : Nat) (oc : Outcome) (h : Inv o)
    (hna : (endT alg o id oc).2 ≠ .abort) : Inv (endT alg o id oc).1 := by
  revert hna
  apply endT_cases alg o id oc (motive := fun r => r.2 ≠ .abort → Inv r.1)
  case bad => exact fun _ _ => h
  case abort => intros; contradiction
  case settled =>
    intro t d ht hon hspare hfin hna
    exact (h.placed.settle alg hon _ hfin).inv

/-- for an ongoing trial the hypothesis of the case `bad` of `endT_cases` fails -/
theorem endT_accepts {o : Oracle V A} (h : Inv o) {id : Nat} (hon : id ∈ o.ongoing.map (·.2)) :
    ¬ (o.trials[id]? = none ∨ isOngoing o id = false) := by
  rintro (hn | hoff)
  · obtain ⟨⟨t, ht, _⟩, _⟩ := h.ongoing_facts hon
    rw [hn] at ht; cases ht
  · rw [(isOngoing_iff o id).mpr hon] at hoff; cases hoff

theorem endT_held_ne_bad (alg : Alg V A) (o : Oracle V A) (h : Inv o) {w id : Nat} (hh : holds o w = some id)
    (oc : Outcome) : (endT alg o id oc).2 ≠ .bad := by
  apply endT_cases alg o id oc (motive := fun r => r.2 ≠ .bad)
  case bad => exact fun hb => absurd hb (endT_accepts h (mem_ongoing_of_holds hh))
  case abort | settled => intros; exact nofun

theorem inv_init (a : A) (m : Option Nat) (r k : Nat) : Inv (init (V := V) a m r k) :=
  Placed.inv ⟨List.nodup_nil, .nil, (fun _ hi => nomatch hi), (fun _ hi => nomatch hi), fun _ _ => Nat.zero_le _, rfl, rfl⟩

theorem inv_step (alg : Alg V A) (o : Oracle V A) (op : Op) (h : Inv o)
    (hna : (step alg o op).2 ≠ .abort) : Inv (step alg o op).1 := by
  cases op with
  | create t c => exact inv_create alg o t c h
  | update id r => exact inv_update o id r h
  | endT id oc => exact inv_end alg o id oc h hna

/-- C01 -/
theorem inv_reachable (alg : Alg V A) (o : Oracle V A) (ops : List Op) (h : Inv o) :
    Inv (run alg o ops) ∨ (run alg o ops).aborted = true :=
  run_induction (Q := fun o => o.aborted = true) alg (inv_step alg) (fun o op _ => step_abort alg o op) o ops h

end Core
#print axioms Core.inv_create
#print axioms Core.inv_end
#print axioms Core.inv_reachable
