import Ktm.SpaceDisc
/-! C13, completeness of discovery: one build registers every declaration made under the scopes the build function opens
    (`eagerDecls`: qualified name, full condition stack), whatever values the container holds, because the body of a
    `with hp.conditional_scope(...)` block always runs (an inactive scope only makes its declarations return `None`).
    Declarations that user code guards with a Python `if` (the model's lazy scopes) are not claimed: they are what the
    activation loop of `_populate_initial_space` is for, and stay in `discovery_partial`. -/
namespace Space

/-- `S.qualify` on a given scope list: `qual s.nameScopes n` is `s.qualify n` by `rfl`, and is used as such -/
def qual (ns : List String) (n : String) : String := "/".intercalate (ns ++ [n])

/-- the declarations a build function makes outside Python-`if` guards: name scopes and conditional scopes are
    followed, lazily guarded bodies are skipped; same fuel discipline as `run` -/
def eagerDecls : Nat → List String → List Cond → List Stmt → List (String × List Cond)
  | 0, _, _, _ => []
  | fuel + 1, ns, cs, prog =>
    match prog with
    | [] => []
    | .decl n _ :: rest => (qual ns n, cs) :: eagerDecls fuel ns cs rest
    | .get _ :: rest => eagerDecls fuel ns cs rest
    | .nameScope n body :: rest => eagerDecls fuel (ns ++ [n]) cs body ++ eagerDecls fuel ns cs rest
    | .condScope p vals isLazy body :: rest =>
      (if isLazy then [] else eagerDecls fuel ns (cs ++ [{ name := qual ns p, vals := vals }]) body) ++ eagerDecls fuel ns cs rest

/-- the build does not raise: every declaration is accepted and every conditional scope names a defined parent
    (`hp.get` errors are caught by the caller and do not count) -/
def runOk : Nat → S → List Stmt → Option Val → Bool
  | 0, _, _, _ => true
  | fuel + 1, s, prog, last =>
    match prog with
    | [] => true
    | .decl n d :: rest =>
      match s.retrieve n d with
      | .ok (s', v) => runOk fuel s' rest v
      | .error _ => false
    | .get _ :: rest => runOk fuel s rest last
    | .nameScope n body :: rest =>
      let r1 := run fuel { s with nameScopes := s.nameScopes ++ [n] } body none
      runOk fuel { s with nameScopes := s.nameScopes ++ [n] } body none &&
        runOk fuel { r1.1 with nameScopes := s.nameScopes } rest last
    | .condScope parent vals isLazy body :: rest =>
      let pn := s.qualify parent
      if !(s.exists_ pn s.conds) then false else
      let c : Cond := { name := pn, vals := vals }
      let stack := s.conds ++ [c]
      let s0 := if condActive s.values c then { s with conds := stack, activeScopes := s.activeScopes ++ [stack] }
                else { s with conds := stack, inactiveScopes := s.inactiveScopes ++ [stack] }
      let enter := !isLazy || (match last with | some v => vals.contains v | none => false)
      let r1 := if enter then run fuel s0 body none else (s0, [])
      (if enter then runOk fuel s0 body none else true) && runOk fuel { r1.1 with conds := s.conds } rest last

/-- the head statement registers its own declarations (a declaration by `_retrieve`, a scope by its body), the rest
    of the program only appends to the space -/
theorem run_registers_eager (fuel : Nat) (s : S) (prog : List Stmt) (last : Option Val)
    (hok : runOk fuel s prog last = true) :
    ∀ d ∈ eagerDecls fuel s.nameScopes s.conds prog, (run fuel s prog last).1.exists_ d.1 d.2 = true := by
  fun_induction run fuel s prog last with
  | case1 | case2 => exact fun _ hd => nomatch hd -- out of fuel; end of the program: nothing is claimed
  | case3 s last fuel n d rest s' v hr r ih => -- decl, accepted
    simp only [runOk, hr] at hok
    obtain ⟨hc, hn, _⟩ := retrieve_ext hr
    intro x hx
    rcases List.mem_cons.mp hx with rfl | hx
    · exact exists_mono (run_ext fuel s' rest v).hps (retrieve_exists hr)
    · exact ih hok x (hn ▸ hc ▸ hx)
  | case4 s last fuel n d rest e hr => -- decl, refused
    simp only [runOk, hr] at hok
    cases hok
  | case5 s last fuel n rest r ih => exact ih hok -- get
  | case6 s last fuel n body rest r1 s1 r2 ih1 ih2 => -- nameScope
    simp only [runOk, Bool.and_eq_true] at hok
    intro x hx
    rcases List.mem_append.mp hx with hx | hx
    · exact exists_mono (run_ext fuel s1 rest last).hps (ih1 hok.1 x hx)
    · refine ih2 hok.2 x ?_
      rw [show s1.conds = s.conds from (run_ext fuel _ body none).conds]
      exact hx
  | case7 s last fuel parent vals isLazy body rest pn hex => -- condScope, parent not defined
    change (if (!s.exists_ pn s.conds) = true then false else _) = true at hok
    rw [if_pos hex] at hok
    cases hok
  | case8 s last fuel parent vals isLazy body rest pn hex c stack s0 enter r1 s1 r2 ih1 ih2 => -- condScope
    obtain ⟨_, h0n, h0c⟩ := enter_proj s c _ _ s0 rfl
    -- the condScope branch of `runOk`, which copies that of `run` (`simp only [runOk]` would write `s0` out everywhere)
    change (if (!s.exists_ pn s.conds) = true then false else
      ((if enter = true then runOk fuel s0 body none else true) && runOk fuel s1 rest last)) = true at hok
    rw [if_neg hex, Bool.and_eq_true] at hok
    intro x hx
    rcases List.mem_append.mp hx with hx | hx
    · -- a body that is claimed is not lazy, so it was entered
      cases isLazy with
      | true => cases hx
      | false =>
        refine exists_mono (run_ext fuel s1 rest last).hps (ih1 hok.1 x ?_)
        rw [h0n, h0c]
        exact hx
    · refine ih2 hok.2 x ?_
      rw [show s1.nameScopes = s.nameScopes from (body_ext fuel s0 body enter).nameScopes.trans h0n]
      exact hx

/-- only for both flags on and at least one round of the loop (`fuel + 1`) -/
theorem discovery_registers_eager (prog : List Stmt) (o : S) (fills : List Val) (fuel : Nat)
    (hok : runOk 10000 (copyOf o) prog none = true) :
    ∀ d ∈ eagerDecls 10000 [] [] prog, (populateInitial true true prog o fills (fuel + 1)).o.exists_ d.1 d.2 = true := by
  intro d hd
  -- the entry is in the container after the first build, so `update_space` merges it; the loop only adds
  obtain ⟨h, hh, hn, hcs⟩ := exists_iff.mp (run_registers_eager 10000 (copyOf o) prog none hok d hd)
  obtain ⟨o', hu, hex⟩ := updateSpace_has_all o (run 10000 (copyOf o) prog none).1.hps h hh
  rw [hn, hcs] at hex
  unfold populateInitial
  obtain ⟨d', hp', rfl, h | h⟩ := activateAll_succ true true prog fuel ⟨o, [], [], fills, 0, none⟩ (copyOf o) o' hu
  · rw [h]
    exact hex
  · rw [h]
    exact exists_mono (activateAll_grows true true prog fuel d' hp') hex

/-- `runOk` is not vacuous: the repository's nested example -/
example : (eagerDecls 100 [] [] demo).map (·.1) = ["a", "b", "c", "d/e", "f", "g/h"] ∧ runOk 100 empty demo none = true ∧
    ((eagerDecls 100 [] [] demo).all (fun d => (run 100 empty demo none).1.exists_ d.1 d.2)) = true := by
  refine ⟨?_, ?_, ?_⟩ <;> decide

end Space
#print axioms Space.run_registers_eager
#print axioms Space.discovery_registers_eager
