import Ktm.Metrics
/-! C04: `get_best_trials` = stable sort of the COMPLETED trials by score in the objective's
    direction, padded with the others only when short; direction symmetry. Scores are extended
    rationals (−inf, finite, +inf; never NaN: a COMPLETED trial always has a non-NaN score by C01).
    Trap: the flag here is `maximize`; `Metrics.leDir`, `HB.better` and `Track` carry `minimize` (`le_eq_leDir`). -/
namespace Ranking

structure T where
  id : Nat
  completed : Bool
  score : Sc
  deriving DecidableEq, Repr

def le (maximize : Bool) (a b : T) : Bool := if maximize then Sc.le b.score a.score else Sc.le a.score b.score

def negT (t : T) : T := { t with score := t.score.neg }

def bestTrials (maximize : Bool) (ts : List T) (n : Nat) : List T :=
  let sorted := (ts.filter (·.completed)).mergeSort (le maximize)
  let padded := if sorted.length < n then sorted ++ ts.filter (fun t => !t.completed) else sorted
  padded.take n

theorem le_eq_leDir (m : Bool) (a b : T) : le m a b = Metrics.leDir (!m) a.score b.score := by
  cases m <;> rfl

theorem le_total (m : Bool) (a b : T) : (le m a b || le m b a) = true := by
  rw [le_eq_leDir, le_eq_leDir, Bool.or_eq_true]
  exact Metrics.leDir_total _ _ _

theorem le_trans (m : Bool) (a b c : T) (h1 : le m a b = true) (h2 : le m b c = true) : le m a c = true := by
  rw [le_eq_leDir] at *
  exact Metrics.leDir_trans _ _ _ _ h1 h2

theorem sorted_pairwise (m : Bool) (ts : List T) :
    ((ts.filter (·.completed)).mergeSort (le m)).Pairwise (fun a b => le m a b = true) :=
  List.pairwise_mergeSort (le_trans m) (le_total m) _

/-- the padding test changes nothing: the answer is always the first `n` of "COMPLETED trials in order, then the
    others", since with `n` or more COMPLETED trials the cut falls inside the sorted part anyway -/
theorem bestTrials_eq (m : Bool) (ts : List T) (n : Nat) :
    bestTrials m ts n = ((ts.filter (·.completed)).mergeSort (le m) ++ ts.filter (fun t => !t.completed)).take n := by
  unfold bestTrials
  dsimp only
  split
  · rfl
  · rw [List.take_append_of_le_length (by omega)]

/-- no non-completed trial is ever placed ahead of a completed one -/
theorem completed_prefix (m : Bool) (ts : List T) (n : Nat) :
    ∃ k, ((bestTrials m ts n).take k).all (·.completed) = true ∧ ((bestTrials m ts n).drop k).all (fun t => !t.completed) = true := by
  rw [bestTrials_eq]
  have hs : ∀ t ∈ (ts.filter (·.completed)).mergeSort (le m), t.completed = true := fun t ht =>
    (List.mem_filter.mp (List.mem_mergeSort.mp ht)).2
  generalize (ts.filter (·.completed)).mergeSort (le m) = S at hs
  have hr : ∀ t ∈ ts.filter (fun t => !t.completed), (!t.completed) = true := fun t ht => (List.mem_filter.mp ht).2
  generalize ts.filter (fun t => !t.completed) = R at hr
  -- cut where the sorted part ends: before it only `S`, after it only `R`
  refine ⟨S.length, List.all_eq_true.mpr fun t ht => hs t ?_, List.all_eq_true.mpr fun t ht => hr t ?_⟩
  · rw [List.take_take, List.take_append_of_le_length (Nat.min_le_left _ _)] at ht
    exact List.mem_of_mem_take ht
  · rw [List.drop_take, List.drop_left] at ht
    exact List.mem_of_mem_take ht

/-- direction symmetry: maximising `s` ranks exactly like minimising `-s` -/
theorem symmetric (ts : List T) (n : Nat) :
    (bestTrials true ts n).map negT =
      bestTrials false (ts.map negT) n := by
  -- `negT` keeps `completed`, so it commutes with both filters
  rw [bestTrials_eq, bestTrials_eq, List.filter_map, List.filter_map, List.map_take, List.map_append]
  congr 2
  apply List.map_mergeSort
  intro a _ b _
  simp only [le, if_true, Bool.false_eq_true, if_false, negT]
  exact (Sc.neg_le_neg _ _).symm

end Ranking
#print axioms Ranking.symmetric
#print axioms Ranking.completed_prefix
