import Ktm.Lock
/-! C17: small-step model of the repaired `synchronized` wrapper (per-oracle lock looked up under a guard —
    modelled as an atomic lookup —, owner table, release in `finally`), any number of threads, one oracle.
    The wrapped method is a non-atomic read-modify-write of the oracle state (`body1` reads, `body2`
    writes `f t` of what it read), so that lost updates would be visible. -/
namespace Sync

inductive Pc
  | idle                       -- between calls
  | decided (need : Bool)      -- has read THREADS[oracle]
  | acquired                   -- holds the lock, owner not yet written
  | body1 (need : Bool)        -- inside the wrapped function, before reading the state
  | body2 (need : Bool)        -- has read the state, about to write
  | after (need raised : Bool) -- function returned or raised
  | cleared (raised : Bool)    -- owner cleared, lock not yet released
  deriving DecidableEq, Repr

structure G where
  held : Option Nat            -- thread holding the oracle's lock
  owner : Option Nat           -- THREADS[oracle]
  pc : Nat → Pc
  st : Nat                     -- the oracle's state
  loc : Nat → Nat              -- per thread: the state it read
  log : List Nat               -- threads whose write has happened, oldest first

def setPc (g : G) (t : Nat) (p : Pc) : G := { g with pc := fun u => if u = t then p else g.pc u }

variable (f : Nat → Nat → Nat)

/-- one step of thread `t`; `raise` is the environment's choice whether the body raises (before writing).
    `none` = the thread is blocked (lock not free) -/
def step (g : G) (t : Nat) (raise : Bool) : Option G :=
  match g.pc t with
  | .idle => some (setPc g t (.decided (decide (g.owner ≠ some t))))
  | .decided true => if g.held = none then some (setPc { g with held := some t } t .acquired) else none
  | .decided false => some (setPc g t (.body1 false))
  | .acquired => some (setPc { g with owner := some t } t (.body1 true))
  | .body1 need =>
    if raise then some (setPc g t (.after need true))
    else some (setPc { g with loc := fun u => if u = t then g.st else g.loc u } t (.body2 need))
  | .body2 need => some (setPc { g with st := f t (g.loc t), log := g.log ++ [t] } t (.after need false))
  | .after true r => some (setPc { g with owner := none } t (.cleared r))
  | .after false _ => some (setPc g t .idle)
  | .cleared _ => some (setPc { g with held := none } t .idle)

def inCS : Pc → Bool
  | .acquired | .body1 true | .body2 true | .after true _ | .cleared _ => true
  | _ => false

def ownsName : Pc → Bool
  | .body1 true | .body2 true | .after true _ => true
  | _ => false

theorem owns_inCS (p : Pc) (h : ownsName p = true) : inCS p = true := by
  cases p with
  | body1 n | body2 n | after n _ =>
    cases n with
    | true => rfl
    | false => cases h
  | _ => cases h

def seqState (s0 : Nat) (log : List Nat) : Nat := log.foldl (fun s t => f t s) s0

/-- `lin`, `loc_ok` are the linearizability part; the rest: who holds the lock and the owner entry, no nested call (`Inv.iff`) -/
structure Inv (s0 : Nat) (g : G) : Prop where
  held_cs : ∀ t, g.held = some t ↔ inCS (g.pc t) = true
  owner_ok : ∀ t, g.owner = some t → ownsName (g.pc t) = true
  body_owner : ∀ t, ownsName (g.pc t) = true → g.owner = some t
  no_reent : ∀ t, g.pc t ≠ .decided false ∧ g.pc t ≠ .body1 false ∧ g.pc t ≠ .body2 false ∧ ∀ r, g.pc t ≠ .after false r
  lin : g.st = seqState f s0 g.log
  loc_ok : ∀ t, g.pc t = .body2 true → g.loc t = g.st

def init (s0 : Nat) : G := { held := none, owner := none, pc := fun _ => .idle, st := s0, loc := fun _ => 0, log := [] }

/-- the program points of a nested (re-entrant) call -/
def reent : Pc → Bool
  | .decided false | .body1 false | .body2 false | .after false _ => true
  | _ => false

theorem reent_eq_false_iff {p : Pc} : reent p = false ↔
    p ≠ .decided false ∧ p ≠ .body1 false ∧ p ≠ .body2 false ∧ ∀ r, p ≠ .after false r := by
  constructor
  · intro h
    refine ⟨?_, ?_, ?_, fun r => ?_⟩
    all_goals intro e; rw [e] at h; cases h
  · match p with
    | .decided false => exact fun h => absurd rfl h.1
    | .body1 false => exact fun h => absurd rfl h.2.1
    | .body2 false => exact fun h => absurd rfl h.2.2.1
    | .after false r => exact fun h => absurd rfl (h.2.2.2 r)
    | .idle | .decided true | .acquired | .body1 true | .body2 true | .after true _ | .cleared _ => exact fun _ => rfl

theorem Inv.iff {s0 : Nat} {g : G} : Inv f s0 g ↔
    Lock.Owned (inCS · = true) g.held g.pc ∧ Lock.Owned (ownsName · = true) g.owner g.pc ∧ (∀ t, reent (g.pc t) = false) ∧
    g.st = seqState f s0 g.log ∧ ∀ t, g.pc t = .body2 true → g.loc t = g.st :=
  ⟨fun h => ⟨h.held_cs, fun t => ⟨h.owner_ok t, h.body_owner t⟩, fun t => reent_eq_false_iff.mpr (h.no_reent t), h.lin, h.loc_ok⟩,
   fun ⟨h1, h2, h3, h4, h5⟩ => ⟨h1, fun t => (h2 t).mp, fun t => (h2 t).mpr, fun t => reent_eq_false_iff.mp (h3 t), h4, h5⟩⟩

/-- thread `t` has moved to `p`. The new state is written the way `step` returns it, so that the lemmas of `Lock.Owned` apply
    to the two lock hypotheses as they stand; what has been read is asked of `t` and of the other threads separately (`t`'s own
    read is settled by evaluation, the others' by mutual exclusion or because nothing changed). -/
theorem Inv.move {s0 : Nat} {g : G} (h : Inv f s0 g) {held owner : Option Nat} {t : Nat} {p : Pc} {st : Nat} {loc : Nat → Nat}
    {log : List Nat} (hcs : Lock.Owned (inCS · = true) held (fun u => if u = t then p else g.pc u))
    (hown : Lock.Owned (ownsName · = true) owner (fun u => if u = t then p else g.pc u)) (hr : reent p = false)
    (hlin : st = seqState f s0 log) (hloc : p = .body2 true → loc t = st)
    (hloc' : ∀ u, u ≠ t → g.pc u = .body2 true → loc u = st) :
    Inv f s0 (setPc { g with held := held, owner := owner, st := st, loc := loc, log := log } t p) :=
  (Inv.iff f).mpr ⟨hcs, hown,
    Lock.forall_update (Q := fun _ p => reent p = false) (fun u _ => reent_eq_false_iff.mpr (h.no_reent u)) hr, hlin,
    Lock.forall_update (Q := fun u (p : Pc) => p = .body2 true → loc u = st) hloc' hloc⟩

theorem inv_init (s0 : Nat) : Inv f s0 (init s0) :=
  (Inv.iff f).mpr ⟨fun _ => ⟨nofun, nofun⟩, fun _ => ⟨nofun, nofun⟩, fun _ => rfl, rfl, nofun⟩

theorem inv_step (s0 : Nat) (g g' : G) (t : Nat) (r : Bool) (h : Inv f s0 g) (hs : step f g t r = some g') : Inv f s0 g' := by
  obtain ⟨hcs, hown, hnr, hlin, hloc⟩ := (Inv.iff f).mp h
  have hnrt := hnr t
  have hkept (u : Nat) (_ : u ≠ t) := hloc u
  unfold step at hs
  generalize hpc : g.pc t = p at hs hnrt
  -- a thread in the critical section excludes every other thread from it, so nobody else is about to write
  have others (hp : inCS p = true) (u : Nat) (hu : u ≠ t) : g.pc u ≠ .body2 true :=
    fun e => hu (hcs.mutex (congrArg inCS e) ((congrArg inCS hpc).trans hp))
  cases p with
  | idle =>
    -- an idle thread is not the recorded owner, so it decides to take the lock
    have hno : g.owner ≠ some t := by
      intro ho
      have howns := (hown t).mp ho
      rw [hpc] at howns
      cases howns
    cases hs
    rw [decide_eq_true hno]
    exact h.move f (hcs.keep hpc Iff.rfl) (hown.keep hpc Iff.rfl) rfl hlin nofun hkept
  | decided need =>
    cases need with
    | false => cases hnrt
    | true =>
      by_cases hfree : g.held = none
      · rw [if_pos hfree] at hs
        cases hs
        exact h.move f (hcs.acquire hfree t rfl) (hown.keep hpc Iff.rfl) rfl hlin nofun hkept
      · rw [if_neg hfree] at hs
        cases hs
  | acquired =>
    cases hs
    have hin : inCS (g.pc t) = true := congrArg inCS hpc
    -- nobody is recorded as owner: it would be a second thread in the critical section
    have hfree : g.owner = none := hown.free fun u hu => by
      obtain rfl := hcs.mutex (owns_inCS _ hu) hin
      rw [hpc] at hu
      cases hu
    exact h.move f (hcs.keep hpc Iff.rfl) (hown.acquire hfree t rfl) rfl hlin nofun hkept
  | body1 need =>
    cases need with
    | false => cases hnrt
    | true =>
      cases r with
      | true =>
        cases hs
        exact h.move f (hcs.keep hpc Iff.rfl) (hown.keep hpc Iff.rfl) rfl hlin nofun hkept
      | false =>
        cases hs
        -- `t` has just read the state; no other thread is about to write
        exact h.move f (hcs.keep hpc Iff.rfl) (hown.keep hpc Iff.rfl) rfl hlin (fun _ => if_pos rfl)
          fun u hu e => absurd e (others rfl u hu)
  | body2 need =>
    cases need with
    | false => cases hnrt
    | true =>
      cases hs
      refine h.move f (hcs.keep hpc Iff.rfl) (hown.keep hpc Iff.rfl) rfl ?_ nofun fun u hu e => absurd e (others rfl u hu)
      -- the write applies `f t` to what `t` read, which is still the current state
      show f t (g.loc t) = seqState f s0 (g.log ++ [t])
      rw [hloc t hpc, hlin, seqState, seqState, List.foldl_append]
      rfl
  | after need raised =>
    cases need with
    | false => cases hnrt
    | true =>
      cases hs
      exact h.move f (hcs.keep hpc Iff.rfl) (hown.release hpc rfl (by nofun)) rfl hlin nofun hkept
  | cleared raised =>
    cases hs
    exact h.move f (hcs.release hpc rfl (by nofun)) (hown.keep hpc Iff.rfl) rfl hlin nofun hkept

/-- run a schedule: a list of (thread, raise?) choices; blocked steps are skipped -/
def run (g : G) : List (Nat × Bool) → G
  | [] => g
  | (t, r) :: rest => match step f g t r with
    | some g' => run g' rest
    | none => run g rest

theorem inv_run (s0 : Nat) (g : G) (h : Inv f s0 g) (sched : List (Nat × Bool)) : Inv f s0 (run f g sched) := by
  induction sched generalizing g with
  | nil => exact h
  | cons x xs ih =>
    obtain ⟨t, r⟩ := x
    simp only [run]
    cases hs : step f g t r with
    | some g' => exact ih g' (inv_step f s0 g g' t r h hs)
    | none => exact ih g h

theorem inv_reachable (s0 : Nat) (sched : List (Nat × Bool)) : Inv f s0 (run f (init s0) sched) :=
  inv_run f s0 (init s0) (inv_init f s0) sched

theorem mutual_exclusion (s0 : Nat) (sched : List (Nat × Bool)) (t u : Nat)
    (ht : inCS ((run f (init s0) sched).pc t) = true) (hu : inCS ((run f (init s0) sched).pc u) = true) : t = u :=
  ((Inv.iff f).mp (inv_reachable f s0 sched)).1.mutex ht hu

theorem no_wedge (s0 : Nat) (sched : List (Nat × Bool)) (hidle : ∀ t, (run f (init s0) sched).pc t = .idle) :
    (run f (init s0) sched).held = none ∧ (run f (init s0) sched).owner = none := by
  obtain ⟨hcs, hown, _⟩ := (Inv.iff f).mp (inv_reachable f s0 sched)
  -- at `.idle` neither predicate holds
  rw [funext hidle] at hcs hown
  exact ⟨hcs.free fun _ => Bool.false_ne_true, hown.free fun _ => Bool.false_ne_true⟩

theorem linearizable (s0 : Nat) (sched : List (Nat × Bool)) :
    (run f (init s0) sched).st = seqState f s0 (run f (init s0) sched).log :=
  (inv_reachable f s0 sched).lin

end Sync
#print axioms Sync.mutual_exclusion
#print axioms Sync.linearizable
