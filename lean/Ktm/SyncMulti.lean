import Ktm.Lock
/-! C17, "different oracles do not block each other": the `synchronized` wrapper over several oracles.

`Ktm/Sync.lean` models one oracle and treats the lookup of its lock as atomic. Here the lookup is spelled out as the
code has it: the table of per-oracle locks is read (and the lock created) under one process-wide guard lock,
`with LOCKS_GUARD: lock = LOCKS[oracle]`, the guard is released, and only then the thread waits for the oracle's own
lock. Any number of threads, any number of oracles; a thread picks the oracle of its next call freely. -/
namespace SyncMulti

inductive Pc
  | idle
  | decided (o : Nat)      -- has read THREADS[o], needs the lock (re-entrant calls are in `Sync`)
  | lookup (o : Nat)       -- holds the guard, reads / creates LOCKS[o]
  | want (o : Nat)         -- guard released, waits for the lock of o
  | acquired (o : Nat)     -- holds the lock of o, owner not yet written
  | body (o : Nat)         -- inside the wrapped method
  | after (o : Nat)        -- method returned or raised
  | cleared (o : Nat)      -- owner cleared, lock not yet released
  deriving DecidableEq, Repr

structure G where
  guard : Option Nat            -- thread holding LOCKS_GUARD
  held : Nat → Option Nat       -- per oracle: thread holding its lock
  owner : Nat → Option Nat      -- THREADS[o]
  pc : Nat → Pc

def setPc (g : G) (t : Nat) (p : Pc) : G := { g with pc := fun u => if u = t then p else g.pc u }
def setHeld (g : G) (o : Nat) (v : Option Nat) : G := { g with held := fun x => if x = o then v else g.held x }
def setOwner (g : G) (o : Nat) (v : Option Nat) : G := { g with owner := fun x => if x = o then v else g.owner x }

/-- one step of thread `t`; `o` is the oracle an idle thread calls next. `none` = blocked. -/
def step (g : G) (t : Nat) (o : Nat) : Option G :=
  match g.pc t with
  | .idle => some (setPc g t (.decided o))
  | .decided o' => if g.guard = none then some (setPc { g with guard := some t } t (.lookup o')) else none
  | .lookup o' => some (setPc { g with guard := none } t (.want o'))
  | .want o' => if g.held o' = none then some (setPc (setHeld g o' (some t)) t (.acquired o')) else none
  | .acquired o' => some (setPc (setOwner g o' (some t)) t (.body o'))
  | .body o' => some (setPc g t (.after o'))
  | .after o' => some (setPc (setOwner g o' none) t (.cleared o'))
  | .cleared o' => some (setPc (setHeld g o' none) t .idle)

/-- the oracle whose lock the thread holds, if any -/
def csOf : Pc → Option Nat
  | .acquired o | .body o | .after o | .cleared o => some o
  | _ => none

def isLookup : Pc → Bool
  | .lookup _ => true
  | _ => false

structure Inv (g : G) : Prop where
  guard_iff : ∀ t, g.guard = some t ↔ isLookup (g.pc t) = true
  held_iff : ∀ o t, g.held o = some t ↔ csOf (g.pc t) = some o

def init : G := { guard := none, held := fun _ => none, owner := fun _ => none, pc := fun _ => .idle }

theorem Inv.iff {g : G} : Inv g ↔ Lock.Owned (isLookup · = true) g.guard g.pc ∧ ∀ o, Lock.Owned (csOf · = some o) (g.held o) g.pc :=
  ⟨fun h => ⟨h.guard_iff, h.held_iff⟩, fun h => ⟨h.1, h.2⟩⟩

theorem inv_init : Inv init := Inv.iff.mpr ⟨fun _ => ⟨nofun, nofun⟩, fun _ _ => ⟨nofun, nofun⟩⟩

/-- the new state is written the way `step` returns it, so that the `Lock.Owned` lemmas apply as they stand -/
theorem Inv.move {g : G} {guard : Option Nat} {held owner : Nat → Option Nat} {t : Nat} {p : Pc}
    (hg : Lock.Owned (isLookup · = true) guard (fun u => if u = t then p else g.pc u))
    (hh : ∀ o, Lock.Owned (csOf · = some o) (held o) (fun u => if u = t then p else g.pc u)) :
    Inv (setPc { g with guard := guard, held := held, owner := owner } t p) :=
  Inv.iff.mpr ⟨hg, hh⟩

theorem inv_step (g g' : G) (t o : Nat) (h : Inv g) (hs : step g t o = some g') : Inv g' := by
  obtain ⟨hg, hh⟩ := Inv.iff.mp h
  unfold step at hs
  generalize hpc : g.pc t = p at hs
  cases p with
  | idle | acquired _ | body _ | after _ =>
    -- these steps touch neither the guard nor a lock
    cases hs
    exact Inv.move (hg.keep hpc Iff.rfl) fun x => (hh x).keep hpc Iff.rfl
  | decided o' =>
    dsimp only at hs
    by_cases hfree : g.guard = none
    · rw [if_pos hfree] at hs
      cases hs
      exact Inv.move (hg.acquire hfree t rfl) fun x => (hh x).keep hpc Iff.rfl
    · rw [if_neg hfree] at hs
      cases hs
  | lookup o' =>
    cases hs
    exact Inv.move (hg.release hpc rfl (by nofun)) fun x => (hh x).keep hpc Iff.rfl
  | want o' =>
    dsimp only at hs
    by_cases hfree : g.held o' = none
    · rw [if_pos hfree] at hs
      cases hs
      refine Inv.move (hg.keep hpc Iff.rfl) fun x => ?_
      -- `setHeld`: the lock of `o'` is taken, the others stay
      by_cases hx : x = o'
      · subst hx
        rw [if_pos rfl]
        exact (hh x).acquire hfree t rfl
      · rw [if_neg hx]
        exact (hh x).keep hpc ⟨fun e => absurd (Option.some.inj e).symm hx, nofun⟩
    · rw [if_neg hfree] at hs
      cases hs
  | cleared o' =>
    cases hs
    refine Inv.move (hg.keep hpc Iff.rfl) fun x => ?_
    by_cases hx : x = o'
    · subst hx
      rw [if_pos rfl]
      exact (hh x).release hpc rfl (by nofun)
    · rw [if_neg hx]
      exact (hh x).keep hpc ⟨nofun, fun e => absurd (Option.some.inj e).symm hx⟩

/-- run a schedule of (thread, oracle it would call next); blocked steps leave the state unchanged -/
def run (g : G) : List (Nat × Nat) → G
  | [] => g
  | (t, o) :: rest => run ((step g t o).getD g) rest

theorem inv_run (g : G) (h : Inv g) (sched : List (Nat × Nat)) : Inv (run g sched) := by
  induction sched generalizing g with
  | nil => exact h
  | cons a rest ih =>
    obtain ⟨t, o⟩ := a
    simp only [run]
    cases hs : step g t o with
    | none => exact ih g h
    | some g' => exact ih g' (inv_step g g' t o h hs)

theorem inv_reachable (sched : List (Nat × Nat)) : Inv (run init sched) := inv_run init inv_init sched

theorem isLookup_iff {p : Pc} : isLookup p = true ↔ ∃ o, p = .lookup o := by
  constructor
  · intro h
    cases p with
    | lookup o => exact ⟨o, rfl⟩
    | _ => cases h
  · intro ⟨o, e⟩
    rw [e]
    rfl

/-- the guard is held exactly during the lookup — never while waiting for, or holding, an oracle's lock -/
theorem guard_only_during_lookup (sched : List (Nat × Nat)) (t : Nat) :
    (run init sched).guard = some t ↔ ∃ o, (run init sched).pc t = .lookup o :=
  ((inv_reachable sched).guard_iff t).trans isLookup_iff

theorem guard_holder_not_blocked (g : G) (h : Inv g) (t o : Nat) (hgd : g.guard = some t) :
    ∃ g', step g t o = some g' ∧ g'.guard = none := by
  obtain ⟨o', hp⟩ := isLookup_iff.mp ((h.guard_iff t).mp hgd)
  rw [step, hp]
  exact ⟨_, rfl, rfl⟩

/-- different oracles do not block each other: a blocked thread waits for the guard, whose holder is in the middle of a
    lookup (and not blocked), or for the lock of the oracle it is calling, held by a thread inside a call on that oracle -/
theorem blocked_only_by_same_oracle (g : G) (h : Inv g) (t o : Nat) (hb : step g t o = none) :
    (∃ o' u, g.pc t = .decided o' ∧ g.guard = some u ∧ isLookup (g.pc u) = true) ∨
    (∃ o' u, g.pc t = .want o' ∧ g.held o' = some u ∧ csOf (g.pc u) = some o') := by
  unfold step at hb
  generalize g.pc t = p at hb ⊢
  cases p with
  | decided o' =>
    dsimp only at hb
    cases hgd : g.guard with
    | none =>
      rw [if_pos hgd] at hb
      cases hb
    | some u => exact Or.inl ⟨o', u, rfl, rfl, (h.guard_iff u).mp hgd⟩
  | want o' =>
    dsimp only at hb
    cases hhd : g.held o' with
    | none =>
      rw [if_pos hhd] at hb
      cases hb
    | some u => exact Or.inr ⟨o', u, rfl, hhd, (h.held_iff o' u).mp hhd⟩
  | idle | lookup _ | acquired _ | body _ | after _ | cleared _ => cases hb

theorem mutex_per_oracle (sched : List (Nat × Nat)) (o t u : Nat)
    (ht : csOf ((run init sched).pc t) = some o) (hu : csOf ((run init sched).pc u) = some o) : t = u :=
  ((Inv.iff.mp (inv_reachable sched)).2 o).mutex ht hu

/-- `with LOCKS_GUARD: lock = LOCKS[o]; lock.acquire()` — the guard is released only once the lock was obtained -/
def stepHeldGuard (g : G) (t : Nat) (o : Nat) : Option G :=
  match g.pc t with
  | .lookup o' => if g.held o' = none then some (setPc (setHeld { g with guard := none } o' (some t)) t (.acquired o')) else none
  | _ => step g t o

def runHG (g : G) : List (Nat × Nat) → G
  | [] => g
  | (t, o) :: rest => runHG ((stepHeldGuard g t o).getD g) rest

/-- thread 0 is inside a call on oracle 0, thread 2 queues on oracle 0 (holding the guard), thread 1 calls the idle
    oracle 1 and is blocked: with the variant, a call on one oracle is held up by calls on another -/
theorem held_guard_blocks_other_oracle :
    let g := runHG init [(0, 0), (0, 0), (0, 0), (0, 0), (2, 0), (2, 0), (2, 0), (1, 1)]
    g.pc 0 = .body 0 ∧ g.pc 2 = .lookup 0 ∧ g.guard = some 2 ∧ g.pc 1 = .decided 1 ∧ stepHeldGuard g 1 1 = none := by
  refine ⟨?_, ?_, ?_, ?_, ?_⟩ <;> decide

/-- the code as it is, same schedule: thread 1 proceeds into its call on oracle 1 -/
example :
    let g := run init [(0, 0), (0, 0), (0, 0), (0, 0), (0, 0), (2, 0), (2, 0), (2, 0), (2, 0), (1, 1), (1, 1), (1, 1), (1, 1), (1, 1)]
    g.pc 0 = .body 0 ∧ g.pc 2 = .want 0 ∧ g.guard = none ∧ g.pc 1 = .body 1 := by
  refine ⟨?_, ?_, ?_, ?_⟩ <;> decide

end SyncMulti
#print axioms SyncMulti.blocked_only_by_same_oracle
#print axioms SyncMulti.guard_only_during_lookup
#print axioms SyncMulti.mutex_per_oracle
