import Ktm.BestEpoch
import Ktm.Codec
import Ktm.Continuous
import Ktm.Core
import Ktm.CoreC23
import Ktm.CoreCount
import Ktm.CoreInv
import Ktm.CoreOps
import Ktm.Driver
import Ktm.DriverAll
import Ktm.DriverCodec
import Ktm.DriverGrid
import Ktm.DriverHB
import Ktm.DriverMetrics
import Ktm.DriverRandom
import Ktm.DriverSpace
import Ktm.DriverSync
import Ktm.DriverTF
import Ktm.Grid
import Ktm.GridInv
import Ktm.GridSucc
import Ktm.GridTop
import Ktm.Growth
import Ktm.Hyperband
import Ktm.HyperbandBracket
import Ktm.HyperbandLive
import Ktm.HyperbandOracle
import Ktm.HyperbandSched
import Ktm.ListLemmas
import Ktm.Live
import Ktm.Lock
import Ktm.Metrics
import Ktm.NanEpoch
import Ktm.Persist
import Ktm.PersistOps
import Ktm.PersistSecond
import Ktm.Props.C01
import Ktm.Props.C02
import Ktm.Props.C03
import Ktm.Props.C04
import Ktm.Props.C05
import Ktm.Props.C06
import Ktm.Props.C07
import Ktm.Props.C08
import Ktm.Props.C09
import Ktm.Props.C10
import Ktm.Props.C11
import Ktm.Props.C12
import Ktm.Props.C13
import Ktm.Props.C14
import Ktm.Props.C15
import Ktm.Props.C16
import Ktm.Props.C17
import Ktm.Props.C18
import Ktm.Props.C19
import Ktm.Props.C20
import Ktm.Proto
import Ktm.Random
import Ktm.RandomEnum
import Ktm.RandomSeeded
import Ktm.Rank
import Ktm.Ranking
import Ktm.Reorder
import Ktm.Requeue
import Ktm.Results
import Ktm.Rpc
import Ktm.Sc
import Ktm.Search
import Ktm.Space
import Ktm.SpaceComplete
import Ktm.SpaceDisc
import Ktm.SpacePF
import Ktm.Streak
import Ktm.Symmetry
import Ktm.Sync
import Ktm.SyncMulti
import Ktm.SyncOrig
import Ktm.SyncPre
import Ktm.Track
import Ktm.Transforms
import Ktm.TunerFile
